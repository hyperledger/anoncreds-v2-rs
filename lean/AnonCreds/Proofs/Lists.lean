/-
List facts behind the model's idioms: association lists (`List.lookup`, the model's `IndexMap`s), `find?` by a
key, `mapM` into `Option`.
-/
namespace AC
variable {κ β : Type} [BEq κ] [LawfulBEq κ]

theorem mem_of_lookup {l : List (κ × β)} {k : κ} {v : β} (h : l.lookup k = some v) : (k, v) ∈ l := by
  obtain ⟨l₁, l₂, rfl, _⟩ := List.lookup_eq_some_iff.1 h
  simp

theorem exists_lookup_of_mem {l : List (κ × β)} {k : κ} {v : β} (h : (k, v) ∈ l) : ∃ v', l.lookup k = some v' :=
  Option.isSome_iff_exists.1 (List.lookup_isSome_iff.2 ⟨_, h, beq_self_eq_true k⟩)

/-- a key all of whose entries carry the same value looks up to that value -/
theorem lookup_of_unique {l : List (κ × β)} {k : κ} {v : β} (hex : ∃ v', (k, v') ∈ l)
    (hall : ∀ v', (k, v') ∈ l → v' = v) : l.lookup k = some v := by
  obtain ⟨v', hv'⟩ := hex
  obtain ⟨w, hw⟩ := exists_lookup_of_mem hv'
  rw [hw, hall w (mem_of_lookup hw)]

/-- … and likewise for `find?`: the only element with the property is the one found -/
theorem find?_of_unique {α : Type} {p : α → Bool} {l : List α} {b : α} (hb : b ∈ l) (hp : p b = true)
    (hall : ∀ a ∈ l, p a = true → a = b) : l.find? p = some b := by
  cases h : l.find? p with
  | none => exact absurd hp (List.find?_eq_none.1 h b hb)
  | some a => rw [hall a (List.mem_of_find?_eq_some h) (List.find?_some h)]

/-- looking a key up in the tabulation of a function over a list of keys -/
theorem lookup_map_graph (g : κ → β) {ks : List κ} {k : κ} (hk : k ∈ ks) :
    (ks.map fun i => (i, g i)).lookup k = some (g k) := by
  refine lookup_of_unique ⟨_, List.mem_map.mpr ⟨k, hk, rfl⟩⟩ fun v' hv' => ?_
  obtain ⟨j, _, e⟩ := List.mem_map.mp hv'
  obtain ⟨rfl, rfl⟩ := Prod.mk.inj e
  rfl

theorem getElem?_of_take {α : Type} {l : List α} {n i : Nat} {a : α} (h : (l.take n)[i]? = some a) :
    l[i]? = some a := by
  rw [List.getElem?_take] at h
  split at h
  · exact h
  · cases h

theorem map_of_mapM_eq_some {α β : Type} {f : α → Option β} :
    ∀ {l : List α} {rs : List β}, l.mapM f = some rs → l.map f = rs.map some
  | [], _, h => by cases h; rfl
  | x :: xs, _, h => by
    rw [List.mapM_cons] at h
    obtain ⟨b, hb, h⟩ := Option.bind_eq_some_iff.mp h
    obtain ⟨bs, hbs, h⟩ := Option.bind_eq_some_iff.mp h
    cases h
    rw [List.map_cons, List.map_cons, hb, map_of_mapM_eq_some hbs]

theorem mem_of_mapM_eq_some {α β : Type} {f : α → Option β} {l : List α} {rs : List β}
    (h : l.mapM f = some rs) {b : β} : b ∈ rs ↔ ∃ a ∈ l, f a = some b := by
  have : some b ∈ l.map f ↔ b ∈ rs := by rw [map_of_mapM_eq_some h]; simp
  rw [← this, List.mem_map]

theorem exists_of_mapM_eq_some {α β : Type} {f : α → Option β} {l : List α} {rs : List β}
    (h : l.mapM f = some rs) {a : α} (ha : a ∈ l) : ∃ b ∈ rs, f a = some b := by
  have := List.mem_map_of_mem (f := f) ha
  rw [map_of_mapM_eq_some h, List.mem_map] at this
  obtain ⟨b, hb, e⟩ := this
  exact ⟨b, hb, e.symm⟩

end AC
