import AnonCreds.Model.Sigma
import Mathlib.Tactic.Module
/-
Generic lemmas for linear Σ-protocols over the zip-truncating `msm`: completeness, special
soundness (the extractor is the pointwise difference quotient — the same function for every equation,
which is what links equations that share a response) and the effect of a wrong response count.
Every Schnorr verifier of the model is an instance of `recommit`; the `…Recommit_eq` lemmas say which.
-/
namespace AC.Sigma
variable {F G : Type} [Field F] [AddCommGroup G] [Module F G]

@[simp] theorem msm_nil_left (ss : List F) : msm ([] : List G) ss = 0 := by cases ss <;> rfl
@[simp] theorem msm_nil_right (ps : List G) : msm ps ([] : List F) = 0 := by cases ps <;> rfl
@[simp] theorem msm_cons (p : G) (ps : List G) (s : F) (ss : List F) :
    msm (p :: ps) (s :: ss) = s • p + msm ps ss := rfl

theorem msm_append (ps qs : List G) (ss ts : List F) (h : ps.length = ss.length) :
    msm (ps ++ qs) (ss ++ ts) = msm ps ss + msm qs ts := by
  induction ps generalizing ss with
  | nil => cases ss <;> simp_all
  | cons p ps ih =>
    cases ss with
    | nil => simp at h
    | cons s ss =>
      simp only [List.cons_append, msm_cons]
      rw [ih ss (by simpa using h), add_assoc]

/-- scalars beyond the last point are cut off -/
theorem msm_append_right (ps : List G) (ss ts : List F) (h : ps.length = ss.length) :
    msm ps (ss ++ ts) = msm ps ss := by
  simpa using msm_append ps [] ss ts h

/-- `msm ps` is linear in the scalar list. The two lists need the same length (the shorter would truncate
the other), but no relation to `ps`. -/
theorem msm_zipWith (ps : List G) {f : F → F → F} {a b : F} (hf : ∀ x y, f x y = a * x + b * y)
    (n s : List F) (h : n.length = s.length) :
    msm ps (List.zipWith f n s) = a • msm ps n + b • msm ps s := by
  induction ps generalizing n s with
  | nil => simp
  | cons q qs ih =>
    match n, s, h with
    | [], [], _ => simp
    | x :: n, y :: s, h =>
      simp only [List.zipWith_cons_cons, msm_cons, hf, ih n s (by simpa using h)]
      module

/-- changing one scalar moves the sum by the difference times the point at that position -/
theorem msm_set {Bs : List G} {p : List F} {i : Nat} {B : G} {x : F} (v : F)
    (hB : Bs[i]? = some B) (hp : p[i]? = some x) :
    msm Bs (p.set i v) = msm Bs p + (v - x) • B := by
  induction Bs generalizing p i with
  | nil => simp at hB
  | cons b bs ih =>
    cases p with
    | nil => simp at hp
    | cons a as =>
      cases i with
      | zero =>
        cases hB
        cases hp
        rw [List.set_cons_zero, msm_cons, msm_cons]
        module
      | succ j =>
        rw [List.getElem?_cons_succ] at hB hp
        rw [List.set_cons_succ, msm_cons, msm_cons, ih hB hp, add_assoc]

/-- pointwise `n + c * s` -/
def respond (c : F) (n s : List F) : List F := List.zipWith (fun a b => a + c * b) n s

/-- pointwise difference quotient of two response vectors -/
def extract (c c' : F) (p p' : List F) : List F :=
  List.zipWith (fun a b => (a - b) / (c - c')) p p'

@[simp] theorem respond_length (c : F) (n s : List F) : (respond c n s).length = min n.length s.length := by
  simp [respond]

@[simp] theorem extract_length (c c' : F) (p p' : List F) :
    (extract c c' p p').length = min p.length p'.length := by
  simp [extract]

theorem msm_respond (ps : List G) (c : F) (n s : List F) (h : n.length = s.length) :
    msm ps (respond c n s) = msm ps n + c • msm ps s := by
  rw [respond, msm_zipWith ps (a := 1) (b := c) (fun _ _ => by ring) n s h, one_smul]

theorem msm_extract (ps : List G) (p p' : List F) (c c' : F) (hc : c - c' ≠ 0)
    (h1 : ps.length = p.length) (h2 : ps.length = p'.length) :
    (c - c') • msm ps (extract c c' p p') = msm ps p - msm ps p' := by
  rw [extract, msm_zipWith ps (a := (c - c')⁻¹) (b := -(c - c')⁻¹) (fun _ _ => by ring) p p' (h1.symm.trans h2),
    neg_smul, ← sub_eq_add_neg, ← smul_sub, smul_inv_smul₀ hc]

/-- the verifier's recomputation for a relation `T = msm Bs s`: bases `Bs ++ [T]`, scalars `p ++ [-c]` -/
def recommit (Bs : List G) (T : G) (c : F) (p : List F) : G := msm (Bs ++ [T]) (p ++ [-c])

theorem recommit_eq {Bs : List G} {T : G} {c : F} {p : List F} (h : p.length = Bs.length) :
    recommit Bs T c p = msm Bs p - c • T := by
  rw [recommit, msm_append _ _ _ _ h.symm, msm_cons, msm_nil_left, add_zero, neg_smul, sub_eq_add_neg]

/-- completeness: honest responses recompute the honest commitment -/
theorem recommit_complete (Bs : List G) (c : F) (n s : List F)
    (h1 : n.length = Bs.length) (h2 : s.length = Bs.length) :
    recommit Bs (msm Bs s) c (respond c n s) = msm Bs n := by
  rw [recommit_eq (by simp [h1, h2]), msm_respond _ _ _ _ (h1.trans h2.symm), add_sub_cancel_right]

/-- special soundness: two accepting response vectors of the right length for one commitment and two
challenges yield a witness, namely the difference quotient -/
theorem recommit_sound (Bs : List G) (T R : G) (c c' : F) (p p' : List F) (hc : c ≠ c')
    (hl : p.length = Bs.length) (hl' : p'.length = Bs.length)
    (h1 : recommit Bs T c p = R) (h2 : recommit Bs T c' p' = R) :
    msm Bs (extract c c' p p') = T := by
  have hne : c - c' ≠ 0 := sub_ne_zero.mpr hc
  rw [← h2, recommit_eq hl, recommit_eq hl'] at h1
  rw [← smul_right_inj hne, msm_extract Bs p p' c c' hne hl.symm hl'.symm, sub_smul]
  exact sub_eq_sub_iff_sub_eq_sub.1 h1

/-- special soundness over a split list of points: the difference quotient splits at the same position -/
theorem recommit_sound_append (Bs Cs : List G) (T R : G) (c c' : F) (p p' : List F) (hc : c ≠ c')
    (hl : p.length = Bs.length + Cs.length) (hl' : p'.length = Bs.length + Cs.length)
    (h1 : recommit (Bs ++ Cs) T c p = R) (h2 : recommit (Bs ++ Cs) T c' p' = R) :
    ∃ ms rs : List F, ms.length = Bs.length ∧ rs.length = Cs.length ∧ msm Bs ms + msm Cs rs = T := by
  have hm : ((extract c c' p p').take Bs.length).length = Bs.length := by simp [hl, hl']
  refine ⟨_, (extract c c' p p').drop Bs.length, hm, by simp [hl, hl'], ?_⟩
  rw [← msm_append _ _ _ _ hm.symm, List.take_append_drop]
  exact recommit_sound _ T R c c' p p' hc (by simp [hl]) (by simp [hl']) h1 h2

/-- with one response too many the scalar list is already as long as the point list, so `-c` is cut off:
the recomputed commitment does not depend on the challenge (finding F02) -/
theorem recommit_overlong (Bs : List G) (T : G) (c c' : F) (p : List F)
    (hl : p.length = Bs.length + 1) : recommit Bs T c p = recommit Bs T c' p := by
  have h : (Bs ++ [T]).length = p.length := by simp [hl]
  rw [recommit, recommit, msm_append_right _ _ _ h, msm_append_right _ _ _ h]

/-- a changed response moves the recomputed commitment by the difference times its base point -/
theorem recommit_set {Bs : List G} {p : List F} {i : Nat} {x : F} {B : G} (T : G) (c v : F)
    (hl : p.length = Bs.length) (hB : Bs[i]? = some B) (hp : p[i]? = some x) :
    recommit Bs T c (p.set i v) = recommit Bs T c p + (v - x) • B := by
  rw [recommit_eq (List.length_set.trans hl), recommit_eq hl, msm_set v hB hp, add_sub_right_comm]

/-! ### the verifiers of the model as instances of `recommit` -/

theorem bbsRecommit_eq (g1 : G) (ys : List G) (rvl : List (Nat × F)) (c : F) (π : BbsPok F G) :
    bbsRecommit g1 ys rvl c π
      = recommit (hiddenGens ys (rvl.map (·.1)) ++ [π.abar, π.bbar]) (bbsLhs g1 ys rvl) c π.proof := by
  rw [recommit, List.append_assoc]; rfl

theorem psRecommit_eq {G1 : Type} (g2 w : G) (ys : List G) (known : List Nat) (c : F) (π : PsPok F G1 G) :
    psRecommit g2 w ys known c π = recommit ([g2, w] ++ hiddenGens ys known) π.commitment c π.proof := rfl

theorem blindRecommit_eq (ys : List G) (known : List Nat) (extra : List G) (ctx : BlindCtx F G) :
    blindRecommit ys known extra ctx
      = recommit (hiddenGens ys known ++ extra) ctx.commitment ctx.challenge ctx.proofs := rfl

theorem commitmentRecommit_eq (M B C : G) (c pm pb : F) :
    commitmentRecommit M B C c pm pb = recommit [M, B] C c [pm, pb] := by
  simp only [commitmentRecommit, recommit, List.cons_append, List.nil_append, msm_cons, msm_nil_left, add_zero]
  ac_rfl

theorem elgamalRecommit_eq (g M K c1 c2 : G) (c pm pb : F) :
    elgamalRecommit g M K c1 c2 c pm pb = (recommit [g] c1 c [pb], recommit [M, K] c2 c [pm, pb]) :=
  Prod.ext (by simp [elgamalRecommit, recommit, add_comm]) (commitmentRecommit_eq M K c2 c pm pb)

end AC.Sigma
