import AnonCreds.Model.Vb20
import Mathlib.Tactic.LinearCombination
import Mathlib.Tactic.Module
/-
Lemmas about the VB20 polynomial code: evaluation homomorphisms of the list operations as coded,
the two loop invariants of `create_coefficients`, when its result is empty, evaluation of
`PolynomialG1`, and what the coefficients published by `Accumulator::update` evaluate to.
-/
namespace AC.Vb20
variable {F : Type} [Field F]

@[simp] theorem polyEval_nil (x : F) : polyEval ([] : List F) x = 0 := rfl
@[simp] theorem polyEval_cons (a : F) (p : List F) (x : F) :
    polyEval (a :: p) x = a + x * polyEval p x := rfl

theorem polyEval_add (p q : List F) (x : F) :
    polyEval (polyAdd p q) x = polyEval p x + polyEval q x := by
  induction p generalizing q with
  | nil => simp [polyAdd]
  | cons a p ih =>
    cases q with
    | nil => simp [polyAdd]
    | cons b q => simp only [polyAdd, polyEval_cons, ih]; ring

@[simp] theorem polyAdd_nil_right (p : List F) : polyAdd p [] = p := by
  cases p <;> rfl

theorem polyEval_neg (q : List F) (x : F) : polyEval (q.map (- ·)) x = - polyEval q x := by
  induction q with
  | nil => simp
  | cons b q ih => simp only [List.map_cons, polyEval_cons, ih]; ring

theorem polyEval_sub (p q : List F) (x : F) :
    polyEval (polySub p q) x = polyEval p x - polyEval q x := by
  induction p generalizing q with
  | nil => simp [polySub, polyEval_neg]
  | cons a p ih =>
    cases q with
    | nil => simp [polySub]
    | cons b q => simp only [polySub, polyEval_cons, ih]; ring

theorem polyEval_scale (c : F) (p : List F) (x : F) :
    polyEval (polyScale c p) x = c * polyEval p x := by
  induction p with
  | nil => simp [polyScale]
  | cons a p ih => simp only [polyScale, List.map_cons, polyEval_cons] at *; rw [ih]; ring

theorem polyEval_replicate_zero (n : Nat) (x : F) : polyEval (List.replicate n (0:F)) x = 0 := by
  induction n with
  | zero => rfl
  | succ n ih => simp [List.replicate_succ, ih]

theorem polyEval_mul (p q : List F) (x : F) :
    polyEval (polyMul p q) x = polyEval p x * polyEval q x := by
  induction p with
  | nil => simp [polyMul, polyEval_replicate_zero]
  | cons c cs ih =>
    cases cs with
    | nil => simp [polyMul, polyEval_scale]
    | cons c2 cs =>
      simp only [polyMul, polyEval_add, polyEval_scale, polyEval_cons] at *
      rw [ih]; ring

theorem polyEval_linProd (vs : List F) (y : F) : polyEval (linProd vs) y = dad y vs := by
  induction vs with
  | nil => simp [linProd, dad]
  | cons v vs ih => simp only [linProd, dad, polyEval_mul, ih, polyEval_cons, polyEval_nil]; ring

/-- `d_D(y) = 0`, on which `evaluate_delta` gives up, means that `y` is among the deletions -/
theorem dad_eq_zero {y : F} {vs : List F} : dad y vs = 0 ↔ y ∈ vs := by
  induction vs with
  | nil => exact iff_of_false one_ne_zero List.not_mem_nil
  | cons v vs ih => rw [dad, mul_eq_zero, sub_eq_zero, ih, List.mem_cons, eq_comm]

/-- invariant of the v_D loop of `create_coefficients` -/
theorem vdGo_eval (α y : F) (c : F) (P : List F) (ds v : List F)
    (hd : ∀ d ∈ ds, d + α ≠ 0) :
    polyEval (vdGo α c P ds v) y * (y + α)
      = polyEval v y * (y + α) + c * polyEval P y * (1 - dad y ds / batchAdd α ds) := by
  induction ds generalizing c P v with
  | nil => simp [vdGo, dad, batchAdd]
  | cons d ds ih =>
    rw [List.forall_mem_cons] at hd
    rw [vdGo, ih _ _ _ hd.2, polyEval_add, polyEval_scale, polyEval_mul]
    simp only [polyEval_cons, polyEval_nil, dad, batchAdd, div_eq_mul_inv, mul_inv]
    -- the new summand and the new factor `d - y` of `P` combine through `(d + α)⁻¹ * (d + α) = 1`
    linear_combination (c * polyEval P y) * inv_mul_cancel₀ hd.1

/-- invariant of the v_A loop of `create_coefficients` -/
theorem vaGo_eval (α y : F) (c : F) (as v : List F) :
    polyEval (vaGo α c as v) y * (y + α)
      = polyEval v y * (y + α) + c * (batchAdd α as - dad y as) := by
  induction as generalizing c v with
  | nil => simp [vaGo, dad, batchAdd]
  | cons a as ih =>
    rw [vaGo, ih, polyEval_add, polyEval_scale, polyEval_linProd]
    simp only [dad, batchAdd]
    ring

/-- the batch polynomial: ω(y)·(y+α) = ∏A(α)·d_D(y)/∏D(α) − d_A(y) -/
theorem createCoefficients_eval (α y : F) (adds dels : List F) (hd : ∀ d ∈ dels, d + α ≠ 0) :
    polyEval (createCoefficients α adds dels) y * (y + α)
      = batchAdd α adds * dad y dels / batchAdd α dels - dad y adds := by
  rw [createCoefficients, polyEval_sub, polyEval_scale, sub_mul, mul_assoc, vaGo_eval,
    vdGo_eval α y 1 [1] dels [] hd]
  simp only [polyEval_cons, polyEval_nil]
  ring

/-! ### when are there no coefficients? -/

@[simp] theorem polyAdd_eq_nil {p q : List F} : polyAdd p q = [] ↔ p = [] ∧ q = [] := by
  cases p <;> cases q <;> simp [polyAdd]

@[simp] theorem polySub_eq_nil {p q : List F} : polySub p q = [] ↔ p = [] ∧ q = [] := by
  cases p <;> cases q <;> simp [polySub]

@[simp] theorem polyScale_eq_nil {c : F} {p : List F} : polyScale c p = [] ↔ p = [] :=
  List.map_eq_nil_iff

@[simp] theorem polyMul_ne_nil (p q : List F) (a b : F) : polyMul p (a :: b :: q) ≠ [] := by
  cases p <;> simp [polyMul]

@[simp] theorem linProd_ne_nil (vs : List F) : linProd vs ≠ [] := by
  cases vs <;> simp [linProd]

theorem vaGo_eq_nil {α c : F} {as v : List F} : vaGo α c as v = [] ↔ as = [] ∧ v = [] := by
  induction as generalizing c v with
  | nil => simp [vaGo]
  | cons a as ih => simp [vaGo, ih]

theorem vdGo_eq_nil {α c : F} {P ds v : List F} (hP : P ≠ []) :
    vdGo α c P ds v = [] ↔ ds = [] ∧ v = [] := by
  induction ds generalizing c P v with
  | nil => simp [vdGo]
  | cons d ds ih => simp [vdGo, ih (polyMul_ne_nil P [] d (-1)), hP]

theorem createCoefficients_eq_nil {α : F} {adds dels : List F} :
    createCoefficients α adds dels = [] ↔ adds = [] ∧ dels = [] := by
  simp [createCoefficients, vaGo_eq_nil, vdGo_eq_nil]

theorem createCoefficients_nil (α : F) : createCoefficients α [] [] = [] :=
  createCoefficients_eq_nil.2 ⟨rfl, rfl⟩

/-! ### `PolynomialG1` -/

variable {G : Type} [AddCommGroup G] [Module F G]

/-- Σ xⁱ • Pᵢ by Horner: what `PolynomialG1::evaluate` returns on a non-empty polynomial -/
def evalG : List G → F → G
  | [], _ => 0
  | p :: ps, x => p + x • evalG ps x

theorem polyEvalG_go (ps : List G) (x pw : F) (acc : G) :
    polyEvalG.go x ps pw acc = acc + pw • evalG ps x := by
  induction ps generalizing pw acc with
  | nil => simp [polyEvalG.go, evalG]
  | cons p ps ih => simp only [polyEvalG.go, ih, evalG, smul_add, smul_smul, add_assoc]

theorem polyEvalG_cons (p : G) (ps : List G) (x : F) :
    polyEvalG (p :: ps) x = some (evalG (p :: ps) x) :=
  congrArg some (polyEvalG_go ps x x p)

theorem evalG_const_smul (k : F) (p : List G) (x : F) :
    evalG (p.map (k • ·)) x = k • evalG p x := by
  induction p with
  | nil => simp [evalG]
  | cons a p ih => simp only [List.map_cons, evalG, ih, smul_add, smul_comm k x]

theorem evalG_polyAddG (p q : List G) (x : F) : evalG (polyAddG p q) x = evalG p x + evalG q x := by
  induction p generalizing q with
  | nil => simp [polyAddG, evalG]
  | cons a p ih =>
    cases q with
    | nil => simp [polyAddG, evalG]
    | cons b q => simp only [polyAddG, evalG, ih, smul_add]; exact add_add_add_comm ..

theorem evalG_smul_const (ω : List F) (V : G) (x : F) :
    evalG (ω.map (· • V)) x = polyEval ω x • V := by
  induction ω with
  | nil => simp [evalG]
  | cons a ω ih => simp only [List.map_cons, evalG, ih, polyEval_cons, add_smul, smul_smul]

theorem polyEvalG_smul_const (ω : List F) (V : G) (x : F) :
    polyEvalG (ω.map (· • V)) x = if ω = [] then none else some (polyEval ω x • V) := by
  cases ω with
  | nil => rfl
  | cons a ω => exact (polyEvalG_cons _ _ x).trans (congrArg some (evalG_smul_const (a :: ω) V x))

@[simp] theorem polyAddG_eq_nil {p q : List G} : polyAddG p q = [] ↔ p = [] ∧ q = [] := by
  cases p <;> cases q <;> simp [polyAddG]

/-! ### the published coefficients `ωᵢ • V` -/

/-- evaluated at `y` they relate old and new accumulator:
`(y+α) • Σ yⁱ • ωᵢV = d_D(y) • V' − d_A(y) • V` -/
theorem accUpdate_eval (α y : F) (V : G) (adds dels : List F) (hd : ∀ d ∈ dels, d + α ≠ 0) :
    (y + α) • evalG (accUpdate α V adds dels).2 y
      = dad y dels • (accUpdate α V adds dels).1 - dad y adds • V := by
  simp only [accUpdate, evalG_smul_const, batchDel, smul_smul, ← sub_smul]
  congr 1
  linear_combination createCoefficients_eval α y adds dels hd

/-- no coefficients are published only for the empty batch, which leaves the accumulator alone -/
theorem accUpdate_of_nil (α : F) (V : G) (adds dels : List F)
    (h : (accUpdate α V adds dels).2 = []) : (accUpdate α V adds dels).1 = V := by
  obtain ⟨rfl, rfl⟩ := createCoefficients_eq_nil.1 (List.map_eq_nil_iff.1 h)
  simp [accUpdate, batchAdd, batchDel]

end AC.Vb20
