import AnonCreds.Model.Claims
/-
Byte-level lemmas: big/little-endian conversion round trips, bounds, and the scalar packing
of `ScalarClaim::encode_bytes` / `decode_to_bytes`.
-/
namespace AC

/-! ### little-endian -/

theorem leVal_append_single (l : Bytes) (x : UInt8) :
    leVal (l ++ [x]) = leVal l + 256 ^ l.length * x.toNat := by
  induction l with
  | nil => simp [leVal]
  | cons a l ih =>
    rw [List.cons_append, leVal, ih, leVal, List.length_cons, Nat.pow_succ', Nat.mul_add, Nat.mul_assoc,
      Nat.add_assoc]

theorem leVal_lt (l : Bytes) : leVal l < 256 ^ l.length := by
  induction l with
  | nil => simp [leVal]
  | cons x xs ih =>
    simp only [leVal, List.length_cons, Nat.pow_succ]
    have := x.toNat_lt
    omega

theorem toLE_length (len n : Nat) : (toLE len n).length = len := by
  induction len generalizing n with
  | zero => rfl
  | succ k ih => simp [toLE, ih]

theorem toLE_leVal (l : Bytes) : toLE l.length (leVal l) = l := by
  induction l with
  | nil => rfl
  | cons x xs ih =>
    have hx := x.toNat_lt
    rw [List.length_cons, toLE, leVal, Nat.add_mul_mod_self_left, Nat.mod_eq_of_lt hx,
      Nat.add_mul_div_left _ _ (by decide), Nat.div_eq_of_lt hx, Nat.zero_add, ih, UInt8.ofNat_toNat]

theorem leVal_toLE (len n : Nat) (h : n < 256 ^ len) : leVal (toLE len n) = n := by
  induction len generalizing n with
  | zero => exact (Nat.lt_one_iff.mp h).symm
  | succ k ih =>
    have hlt : n / 256 < 256 ^ k := Nat.div_lt_of_lt_mul (by rwa [Nat.pow_succ, Nat.mul_comm] at h)
    rw [toLE, leVal, ih _ hlt, UInt8.toNat_ofNat_of_lt' (Nat.mod_lt _ (by decide)), Nat.mod_add_div]

theorem toLE_injective (len : Nat) {a b : Nat} (ha : a < 256 ^ len) (hb : b < 256 ^ len)
    (h : toLE len a = toLE len b) : a = b := by
  rw [← leVal_toLE len a ha, h, leVal_toLE len b hb]

/-! ### big-endian: the little-endian facts through `reverse` -/

theorem beVal_reverse (l : Bytes) : beVal l.reverse = leVal l := by
  induction l with
  | nil => rfl
  | cons x xs ih =>
    rw [List.reverse_cons, beVal, List.foldl_append, ← beVal, ih]
    simp only [List.foldl_cons, List.foldl_nil, leVal]
    omega

theorem beVal_eq_leVal_reverse (b : Bytes) : beVal b = leVal b.reverse := by
  rw [← beVal_reverse, List.reverse_reverse]

theorem beVal_lt (b : Bytes) : beVal b < 256 ^ b.length := by
  rw [beVal_eq_leVal_reverse, ← List.length_reverse]
  exact leVal_lt b.reverse

theorem beVal_cons (x : UInt8) (xs : Bytes) :
    beVal (x :: xs) = x.toNat * 256 ^ xs.length + beVal xs := by
  rw [beVal_eq_leVal_reverse, List.reverse_cons, leVal_append_single, ← beVal_eq_leVal_reverse,
    List.length_reverse, Nat.mul_comm, Nat.add_comm]

theorem toBE_length (len n : Nat) : (toBE len n).length = len := by
  rw [toBE, List.length_reverse, toLE_length]

/-- big-endian encoding at the byte string's own width is the inverse of `beVal` -/
theorem toBE_beVal {n : Nat} (b : Bytes) (h : b.length = n) : toBE n (beVal b) = b := by
  subst h
  rw [toBE, beVal_eq_leVal_reverse, ← List.length_reverse, toLE_leVal, List.reverse_reverse]

theorem beVal_toBE (len n : Nat) (h : n < 256 ^ len) : beVal (toBE len n) = n := by
  rw [toBE, beVal_reverse, leVal_toLE len n h]

/-! ### packing -/

/-- the buffer in one form: for the empty value the length byte and the padding are zeros as well -/
theorem packBuffer_eq (v : Bytes) :
    packBuffer v = UInt8.ofNat v.length :: (List.replicate (31 - v.length) 0 ++ v) := by
  cases v <;> rfl

theorem packBuffer_length (v : Bytes) (h : v.length ≤ 31) : (packBuffer v).length = 32 := by
  rw [packBuffer_eq, List.length_cons, List.length_append, List.length_replicate]
  omega

theorem packBuffer_head (v : Bytes) (h : v.length ≤ 31) :
    ((packBuffer v).getD 0 0).toNat = v.length := by
  rw [packBuffer_eq, List.getD_cons_zero, UInt8.toNat_ofNat_of_lt' (Nat.lt_of_le_of_lt h (by decide))]

theorem packBuffer_drop (v : Bytes) (h : v.length ≤ 31) :
    (packBuffer v).drop (32 - v.length) = v := by
  rw [packBuffer_eq, show 32 - v.length = (31 - v.length) + 1 by omega, List.drop_succ_cons,
    List.drop_left' List.length_replicate]

theorem packBuffer_canonical (v : Bytes) (h : v.length ≤ 31) : beVal (packBuffer v) < rOrder := by
  -- the first byte is at most 31 and 31 bytes follow: the value is below `32 * 256^31 ≤ r`
  have hb := beVal_lt (List.replicate (31 - v.length) 0 ++ v)
  rw [List.length_append, List.length_replicate, Nat.sub_add_cancel h] at hb
  rw [packBuffer_eq, beVal_cons, List.length_append, List.length_replicate, Nat.sub_add_cancel h,
    UInt8.toNat_ofNat_of_lt' (Nat.lt_of_le_of_lt h (by decide))]
  have hr : 32 * 256 ^ 31 ≤ rOrder := by decide
  have := Nat.mul_le_mul_right (256 ^ 31) h
  omega

end AC
