import AnonCreds.Model.Transcript
/-
Prefix codes: an encoder `enc` such that `enc a ++ rest` determines both `a` and `rest`, so that encoders can be
put one after the other (and lists of a hashed length element by element) without losing injectivity. LEB128.
-/
namespace AC
variable {α β ι : Type}

def PrefixInj (enc : α → List ι) : Prop :=
  ∀ a a' r r', enc a ++ r = enc a' ++ r' → a = a' ∧ r = r'

/-- `enc` is prefix-injective on the inputs satisfying `P` -/
def PrefixInjOn (P : α → Prop) (enc : α → List ι) : Prop :=
  ∀ a a' r r', P a → P a' → enc a ++ r = enc a' ++ r' → a = a' ∧ r = r'

theorem PrefixInj.on {e : α → List ι} (h : PrefixInj e) : PrefixInjOn (fun _ => True) e :=
  fun a a' r r' _ _ => h a a' r r'

/-- The lengths must be known to agree (the code hashes the count in front of every list): a
prefix-injective element encoder says nothing about where a list of elements ends. -/
theorem PrefixInjOn.flatMap_sameLen {P : α → Prop} {e : α → List ι} (h : PrefixInjOn P e)
    (l l' : List α) (r r' : List ι) (hp : ∀ a ∈ l, P a) (hp' : ∀ a ∈ l', P a)
    (hl : l.length = l'.length) (hh : l.flatMap e ++ r = l'.flatMap e ++ r') : l = l' ∧ r = r' := by
  induction l generalizing l' with
  | nil =>
    cases l' with
    | nil => exact ⟨rfl, hh⟩
    | cons _ _ => cases hl
  | cons a l ih =>
    cases l' with
    | nil => cases hl
    | cons a' l' =>
      rw [List.forall_mem_cons] at hp hp'
      rw [List.flatMap_cons, List.flatMap_cons, List.append_assoc, List.append_assoc] at hh
      obtain ⟨rfl, ht⟩ := h _ _ _ _ hp.1 hp'.1 hh
      obtain ⟨rfl, hr⟩ := ih l' hp.2 hp'.2 (Nat.succ.inj hl) ht
      exact ⟨rfl, hr⟩

theorem PrefixInj.flatMap_sameLen {e : α → List ι} (h : PrefixInj e) :
    ∀ (l l' : List α) r r', l.length = l'.length →
      l.flatMap e ++ r = l'.flatMap e ++ r' → l = l' ∧ r = r' :=
  fun l l' r r' => h.on.flatMap_sameLen l l' r r' (fun _ _ => trivial) (fun _ _ => trivial)

theorem PrefixInj.injective {e : α → List ι} (h : PrefixInj e) (a a' : α) (hh : e a = e a') : a = a' :=
  (h a a' [] [] (by rw [hh])).1

/-! ### LEB128 -/

theorem uvarint_lt (n : Nat) (h : n < 0x80) : uvarint n = [UInt8.ofNat n] := by
  rw [uvarint, dif_pos h]

theorem uvarint_ge (n : Nat) (h : ¬ n < 0x80) :
    uvarint n = UInt8.ofNat (n % 128 + 128) :: uvarint (n / 128) := by
  rw [uvarint, dif_neg h]

/-- the low seven bits of each byte as little-endian base-128 digits: a left inverse of `uvarint` -/
def unvarint : Bytes → Nat
  | [] => 0
  | b :: bs => b.toNat % 128 + 128 * unvarint bs

theorem unvarint_uvarint (n : Nat) : unvarint (uvarint n) = n := by
  induction n using uvarint.induct with
  | case1 n h => simpa [uvarint_lt n h, unvarint] using h
  | case2 n h ih => simpa [uvarint_ge n h, unvarint, ih] using Nat.mod_add_div n 128

theorem uvarint_injective {n m : Nat} (h : uvarint n = uvarint m) : n = m := by
  rw [← unvarint_uvarint n, h, unvarint_uvarint]

/-! ### lists hashed with their positions -/

theorem length_indexed (l : List α) : (Transcript.indexed l).length = l.length := by
  simp [Transcript.indexed]

theorem indexed_inj {l l' : List α} (h : Transcript.indexed l = Transcript.indexed l') : l = l' := by
  have := congrArg (List.map (·.2)) h
  simpa [Transcript.indexed, List.map_map, Function.comp_def] using this

theorem PrefixInj.flatMap_indexed {e : Nat × α → List ι} (h : PrefixInj e) (l l' : List α)
    (r r' : List ι) (hl : l.length = l'.length)
    (hh : (Transcript.indexed l).flatMap e ++ r = (Transcript.indexed l').flatMap e ++ r') :
    l = l' ∧ r = r' := by
  obtain ⟨hi, hr⟩ := h.flatMap_sameLen _ _ r r' (by rw [length_indexed, length_indexed, hl]) hh
  exact ⟨indexed_inj hi, hr⟩

end AC
