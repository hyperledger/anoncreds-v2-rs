import AnonCreds.Model.Verify
/-
What each stage of the `Presentation::verify` model decides, as equivalences: the theorems about accepted
presentations (C01, C05) read them left to right, the completeness theorems (C03) right to left.
-/
namespace AC.Verify

theorem firstSome_eq_none {α β : Type} {f : α → Option β} {l : List α} :
    firstSome f l = none ↔ ∀ a ∈ l, f a = none := by
  induction l with
  | nil => simp [firstSome]
  | cons a as ih => cases h : f a <;> simp [firstSome, h, ih]

variable {F : Type}

theorem resolveRef_iff {stmts : List Stmt} {p : Pres F} {r : String} {c : Nat} :
    resolveRef stmts p r c = true ↔
      ∃ pr, p.proofs.lookup r = some pr ∧ pr.kind = .signature ∧
        (∃ s, stmts.find? (·.id == pr.innerId) = some (.sig s)) ∧
        ∃ l, pr.hiddenIdx = some l ∧ c ∈ l := by
  unfold resolveRef
  cases p.proofs.lookup r with
  | none => simp
  | some pr =>
    -- the kind test stays; then the statement found under the proof's own id, and the hidden indices
    simp only [Option.some.injEq, exists_eq_left', Bool.and_eq_true, beq_iff_eq, and_assoc]
    refine and_congr_right fun _ => and_congr ?_ ?_
    · split
      · next hf => simp [hf]
      · next hf => simpa using hf
    · cases pr.hiddenIdx <;> simp

variable [DecidableEq F]

theorem planSig_eq_none {enc : ClaimData → F} {p : Pres F} {s : SigStmt} :
    planSig enc p s = none ↔
      ∃ pr rep, p.proofs.lookup s.id = some pr ∧ pr.kind = .signature ∧
        p.disclosed.lookup s.id = some rep ∧ checkDisclosed enc s pr.inner rep = true := by
  unfold planSig
  cases p.proofs.lookup s.id with
  | none => simp
  | some pr =>
    by_cases hk : pr.kind = .signature
    · cases p.disclosed.lookup s.id with
      | none => simp [hk]
      | some rep => cases h : checkDisclosed enc s pr.inner rep <;> simp [hk, h]
    · simp [hk]

omit [DecidableEq F] in
/-- `≠ .signature`: the signature kind among the predicates is the model's error arm; an equality statement
is checked by its post-challenge verifier only. -/
theorem planPred_eq_none {stmts : List Stmt} {p : Pres F} {q : PredStmt} :
    planPred stmts p q = none ↔
      ∃ pr, p.proofs.lookup q.id = some pr ∧ pr.kind = q.kind ∧
        (q.kind = .equality ∨ q.kind ≠ .signature ∧
          match q.refs with
          | [] => False
          | (r, i) :: _ =>
            if q.kind = .range then
              ∃ c cp, stmts.find? (·.id == r) = some (.pred c) ∧ c.kind = .commitment ∧
                p.proofs.lookup r = some cp ∧ cp.kind = .commitment
            else resolveRef stmts p r i = true) := by
  unfold planPred
  cases p.proofs.lookup q.id with
  | none => simp
  | some pr =>
    by_cases hk : pr.kind = q.kind
    · simp only [hk, bne_self_eq_false, Bool.false_eq_true, if_false, Option.some.injEq, exists_eq_left', true_and]
      cases q.kind with
      | equality | signature => simp
      | range =>
        rcases q.refs with _ | ⟨⟨r, i⟩, _⟩
        · simp
        · cases hf : stmts.find? (·.id == r) with
          | none => simp [hf]
          | some st =>
            cases st with
            | sig s => simp [hf]
            | pred c =>
              by_cases hc : c.kind = .commitment
              · cases hl : p.proofs.lookup r with
                | none => simp [hf, hc, hl]
                | some cp => by_cases hcp : cp.kind = .commitment <;> simp [hf, hc, hl, hcp]
              · simp [hf, hc]
      | revocation | commitment | verenc | membership | ved =>
        rcases q.refs with _ | ⟨⟨r, i⟩, _⟩ <;> simp
    · simp [hk]

theorem planStage_eq_none {enc : ClaimData → F} {stmts : List Stmt} {p : Pres F} :
    planStage enc stmts p = none ↔
      (∀ e ∈ p.proofs, e.2.innerId = e.1) ∧ (∀ s, Stmt.sig s ∈ stmts → planSig enc p s = none) ∧
      (∀ q, Stmt.pred q ∈ stmts → planPred stmts p q = none) := by
  have hany : (p.proofs.any fun e => e.2.innerId != e.1) = false ↔ ∀ e ∈ p.proofs, e.2.innerId = e.1 := by
    simp [List.any_eq_false]
  -- The two `filterMap`s of `planStage` are only reached through `List.mem_filterMap`, never written out: a
  -- `fun | .sig s => some s | _ => none` elaborated here is another matcher constant and does not rewrite.
  unfold planStage
  simp only [← hany]
  cases p.proofs.any fun e => e.2.innerId != e.1
  · simp only [Bool.false_eq_true, if_false, true_and]
    split
    · next why h =>
      refine iff_of_false nofun fun ⟨hs, _⟩ => ?_
      rw [firstSome_eq_none.2] at h
      · cases h
      · intro s hm
        obtain ⟨st, hst, e⟩ := List.mem_filterMap.1 hm
        cases st <;> cases e
        exact hs _ hst
    · next h =>
      rw [firstSome_eq_none] at h ⊢
      constructor
      · exact fun hp => ⟨fun s hs => h s (List.mem_filterMap.2 ⟨_, hs, rfl⟩),
          fun q hq => hp q (List.mem_filterMap.2 ⟨_, hq, rfl⟩)⟩
      · intro ⟨_, hp⟩ q hm
        obtain ⟨st, hst, e⟩ := List.mem_filterMap.1 hm
        cases st <;> cases e
        exact hp _ hst
  · simp

theorem verify_eq_ok {enc : ClaimData → F} {stmts : List Stmt} {p : Pres F} {ck : Checks} :
    verify enc stmts p ck = .ok ↔
      planStage enc stmts p = none ∧ ck.challengeOk = true ∧ ∀ s ∈ stmts, ck.stmtOk s.id = true := by
  have hfind : stmts.find? (fun s => !ck.stmtOk s.id) = none ↔ ∀ s ∈ stmts, ck.stmtOk s.id = true := by simp
  rw [← hfind]
  unfold verify
  cases planStage enc stmts p <;> cases ck.challengeOk <;> cases stmts.find? _ <;> simp

end AC.Verify
