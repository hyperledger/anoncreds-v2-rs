import AnonCreds.Model.Claims
/-
Lemmas for the integer claim encoding (`zero_center`) that hold without the `i64` domain hypothesis:
the bit-level fact, stated over a generic exponent `k` (= 63) so that no tactic ever sees the literals
2^63 / 2^64; the constants; and bounds that hold of every input.
-/
namespace AC

/-- flipping a bit that is not set adds it -/
theorem xor_two_pow_of_lt {u k : Nat} (h : u < 2 ^ k) : u ^^^ 2 ^ k = u + 2 ^ k := by
  rw [← Nat.or_two_pow_eq_add_of_lt h]
  apply Nat.eq_of_testBit_eq
  intro j
  rw [Nat.testBit_xor, Nat.testBit_or, Nat.testBit_two_pow]
  by_cases hj : k = j
  · subst hj; simp [Nat.testBit_lt_two_pow h]
  · simp [hj]

/-- flipping bit `k` of a number below `2^(k+1)` adds or subtracts `2^k` -/
theorem xor_pow_eq {p k u : Nat} (hp : p = 2 ^ k) (hu : u < 2 * p) :
    u ^^^ p = if u < p then u + p else u - p := by
  subst hp
  split
  · exact xor_two_pow_of_lt ‹_›
  · -- `u` is `u - 2^k` with bit `k` flipped, and flipping twice cancels
    have hw := xor_two_pow_of_lt (show u - 2 ^ k < 2 ^ k by omega)
    rw [Nat.sub_add_cancel (by omega)] at hw
    calc u ^^^ 2 ^ k = ((u - 2 ^ k) ^^^ 2 ^ k) ^^^ 2 ^ k := by rw [hw]
      _ = u - 2 ^ k := by rw [Nat.xor_assoc, Nat.xor_self, Nat.xor_zero]

theorem two64_eq : two64 = 2 * two63 := rfl
theorem two63_pow : two63 = 2 ^ 63 := rfl
theorem two63_pos : 0 < two63 := by decide

theorem asU64_lt (v : Int) : asU64 v < two64 := by
  have hpos : (0 : Int) < two64 := by decide
  have := Int.emod_lt_of_pos v hpos
  unfold asU64; omega

/-- `as u64` undoes `as isize` on 64-bit numbers -/
theorem asU64_asI64 (u : Nat) (hu : u < two64) : asU64 (asI64 u) = u := by
  have hm : (u : Int) % two64 = u := Int.emod_eq_of_lt (Int.natCast_nonneg u) (Int.ofNat_lt.mpr hu)
  -- `as isize` changes its argument by a multiple of `2^64`
  have : asI64 u % (two64 : Int) = u := by
    unfold asI64; split
    · exact hm
    · rwa [Int.sub_emod_right]
  rw [asU64, this, Int.toNat_natCast]

/-- whatever the input, `zero_center` yields a 64-bit number -/
theorem zeroCenter_lt (v : Int) : zeroCenter v < two64 :=
  Nat.xor_lt_two_pow (n := 64) (asU64_lt v) (by decide)

end AC
