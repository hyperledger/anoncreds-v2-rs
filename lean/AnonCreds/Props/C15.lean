import AnonCreds.Model.Issue
/-
C15 — issuance signs exactly schema-conformant claims. `signAccepts` (the loop of
`Issuer::sign_credential` with its early returns) accepts a claim vector iff it is `Conformant`, the
declarative predicate of the property. Validity of the returned signature and handle: C17
(`bbs_sign_verify`, `ps_sign_verify`) and C13 (`issued_handle_verifies`).
-/
namespace AC.C15
open AC AC.Issue

/-- one position conforms: type matches and every validator applies and holds -/
def PosOk (c : ClaimData) (t : ClaimSchemaM) : Prop :=
  c.type = t.type ∧ ∀ v ∈ t.validators, v.isValid c = some true

/-- revocation identifiers of a vector, in order -/
def revIds : List ClaimData → List Bytes
  | [] => []
  | .revocation id :: rest => id :: revIds rest
  | _ :: rest => revIds rest

/-- the property's predicate: schema length, every position conforms, exactly one revocation claim,
whose identifier is not revoked -/
def Conformant (schema : List ClaimSchemaM) (revoked : Bytes → Bool) (claims : List ClaimData) : Prop :=
  claims.length = schema.length ∧ (∀ p ∈ claims.zip schema, PosOk p.1 p.2) ∧
  ∃ id, revIds claims = [id] ∧ revoked id = false

theorem schemaValid_go_eq_true (vs : List Validator) (c : ClaimData) (acc : Bool) :
    schemaValid.go c vs acc = some true ↔ acc = true ∧ ∀ v ∈ vs, v.isValid c = some true := by
  fun_induction schemaValid.go c vs acc with
  | case1 acc => simp
  | case2 acc v rest b hv ih => simp [ih, hv, and_assoc]
  | case3 acc v rest hv => simp [hv]

theorem schemaValid_true (vs : List Validator) (c : ClaimData) :
    schemaValid vs c = some true ↔ ∀ v ∈ vs, v.isValid c = some true := by
  rw [schemaValid, schemaValid_go_eq_true, and_iff_right rfl]

theorem posOk_iff {c : ClaimData} {t : ClaimSchemaM} :
    PosOk c t ↔ c.type = t.type ∧ schemaValid t.validators c = some true := by
  rw [PosOk, schemaValid_true]

/-- the scan succeeds iff every position conforms and the revocation identifiers — the one seen before, then
those of the vector — are at most one, which is then the result. The cases are the branches of `Issue.scan` in
order: end of the vector; type mismatch; a second revocation claim; the first one; any other claim; a validator
that fails or does not apply. -/
theorem scan_spec (ps : List (ClaimData × ClaimSchemaM)) (rev : Option Bytes) (out : Option Bytes) :
    scan ps rev = some out ↔
      (∀ p ∈ ps, PosOk p.1 p.2) ∧ rev.toList ++ revIds (ps.map (·.1)) = out.toList := by
  fun_induction scan ps rev with
  | case1 rev => cases rev <;> cases out <;> simp [revIds]
  | case2 c t rest rev hty => exact iff_of_false nofun fun h => hty (h.1 _ List.mem_cons_self).1
  | case3 t rest rev id hrev hty hv =>
    -- two identifiers are not an `out.toList`
    obtain ⟨r, rfl⟩ := Option.isSome_iff_exists.mp hrev
    exact iff_of_false nofun fun h => by cases out <;> cases h.2
  | case4 t rest rev id hrev hty hv ih =>
    have hpos : PosOk (.revocation id) t := posOk_iff.mpr ⟨Decidable.not_not.mp hty, hv⟩
    rw [ih, List.forall_mem_cons, and_iff_right hpos, Option.not_isSome_iff_eq_none.mp hrev]
    exact Iff.rfl  -- both lists compute to `id :: revIds …`
  | case5 c t rest rev hty hv hc ih =>
    have hpos : PosOk c t := posOk_iff.mpr ⟨Decidable.not_not.mp hty, hv⟩
    rw [ih, List.forall_mem_cons, and_iff_right hpos, List.map_cons, revIds.eq_3 _ _ hc]
  | case6 c t rest rev hty hv =>
    exact iff_of_false nofun fun h => hv (posOk_iff.mp (h.1 _ List.mem_cons_self)).2

theorem scan_zip_eq_some (schema : List ClaimSchemaM) (claims : List ClaimData)
    (hl : claims.length = schema.length) (id : Bytes) :
    scan (claims.zip schema) none = some (some id) ↔
      (∀ p ∈ claims.zip schema, PosOk p.1 p.2) ∧ revIds claims = [id] := by
  rw [scan_spec, List.map_fst_zip (Nat.le_of_eq hl)]
  exact Iff.rfl

/-- which identifier the issuer returns, and when -/
theorem signAccepts_eq_some (schema : List ClaimSchemaM) (revoked : Bytes → Bool) (claims : List ClaimData)
    (id : Bytes) :
    signAccepts schema revoked claims = some id ↔
      claims.length = schema.length ∧ (∀ p ∈ claims.zip schema, PosOk p.1 p.2) ∧
        revIds claims = [id] ∧ revoked id = false := by
  unfold signAccepts
  split
  next hl => exact iff_of_false nofun fun h => hl h.1
  next hl =>
    have hl := Decidable.not_not.mp hl
    rw [and_iff_right hl, ← and_assoc, ← scan_zip_eq_some schema claims hl]
    generalize scan (claims.zip schema) none = o
    rcases o with _ | _ | i
    · simp
    · simp
    · simp only [Option.ite_none_left_eq_some, Option.some.injEq, Bool.not_eq_true]
      rw [and_comm]
      exact and_congr_right fun e => by rw [e]

/-- **The issuer accepts a claim vector exactly when it is conformant** (and then signs it) -/
theorem sign_ok_iff_conformant (schema : List ClaimSchemaM) (revoked : Bytes → Bool) (claims : List ClaimData) :
    (signAccepts schema revoked claims).isSome = true ↔ Conformant schema revoked claims := by
  simp only [Option.isSome_iff_exists, signAccepts_eq_some, Conformant, exists_and_left]

/-- non-vacuity: a two-claim schema with a length validator accepts a conformant vector and rejects
a second revocation claim -/
example : (signAccepts [⟨.revocation, []⟩, ⟨.hashed, [.length (some 1) (some 3)]⟩] (fun _ => false)
    [.revocation [1], .hashed [65, 66] true]).isSome = true := by decide
example : (signAccepts [⟨.revocation, []⟩, ⟨.revocation, []⟩] (fun _ => false)
    [.revocation [1], .revocation [2]]).isSome = false := by decide

end AC.C15
