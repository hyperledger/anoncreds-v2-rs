import AnonCreds.Proofs.Sigma
/-
C17 — signature suites: signatures and proofs of knowledge bind key and messages.
Pairing equations are read through the secret key (bilinearity + non-degeneracy of the BLS12-381
pairing, trusted): `e(A, w + e•g2) = e(B, g2)` with `w = x•g2` is `(x + e) • A = B`;
`e(a_bar, w) = e(b_bar, g2)` is `b_bar = x • a_bar`; the PS equation `e(σ₁, X + m'W + Σ mᵢYᵢ) = e(σ₂, g2)`
is `σ₂ = (x + m'ω + Σ mᵢ yᵢ) • σ₁`.
-/
namespace AC.C17
open AC.Sigma
variable {F G : Type} [Field F] [AddCommGroup G] [Module F G]

/-! ### BBS signatures -/

/-- message commitment `B = g1 + Σ mᵢ yᵢ` -/
def bbsB (g1 : G) (ys : List G) (msgs : List F) : G := g1 + msm ys msgs

/-- `Signature::verify` (secret-key reading) -/
def BbsValid (x e : F) (A : G) (g1 : G) (ys : List G) (msgs : List F) : Prop :=
  A ≠ 0 ∧ (x + e) • A = bbsB g1 ys msgs

/-- `Signature::new`: `A = (x+e)⁻¹ • B`; the code returns an error when `x + e = 0` or `A = 0` -/
theorem bbs_sign_verify (x e : F) (g1 : G) (ys : List G) (msgs : List F)
    (hxe : x + e ≠ 0) (hB : bbsB g1 ys msgs ≠ 0) :
    BbsValid x e ((x + e)⁻¹ • bbsB g1 ys msgs) g1 ys msgs :=
  ⟨smul_ne_zero (inv_ne_zero hxe) hB, smul_inv_smul₀ hxe _⟩

/-- a signature valid for two message vectors under one key: the two vectors have the same image
under the key's generators (a discrete-log relation among hash-derived generators otherwise) -/
theorem bbs_message_binding (x e : F) (A g1 : G) (ys : List G) (msgs msgs' : List F)
    (h : BbsValid x e A g1 ys msgs) (h' : BbsValid x e A g1 ys msgs') :
    msm ys msgs = msm ys msgs' :=
  add_left_cancel (h.2.symm.trans h'.2)

theorem bbs_key_binding (x x' e : F) (A g1 : G) (ys : List G) (msgs : List F)
    (h : BbsValid x e A g1 ys msgs) (h' : BbsValid x' e A g1 ys msgs) : x = x' :=
  add_right_cancel (smul_left_injective F h.1 (h.2.trans h'.2.symm))

theorem bbs_component_binding_e (x e e' : F) (A g1 : G) (ys : List G) (msgs : List F)
    (h : BbsValid x e A g1 ys msgs) (h' : BbsValid x e' A g1 ys msgs) : e = e' :=
  add_left_cancel (smul_left_injective F h.1 (h.2.trans h'.2.symm))

theorem bbs_component_binding_A (x e : F) (A A' g1 : G) (ys : List G) (msgs : List F) (hxe : x + e ≠ 0)
    (h : BbsValid x e A g1 ys msgs) (h' : BbsValid x e A' g1 ys msgs) : A = A' :=
  smul_right_injective G hxe (h.2.trans h'.2.symm)

/-! ### BBS proof of knowledge -/

/-- completeness for every revealed/hidden partition: with the values of `PokSignature::commit`
(`a_bar = r•A`, `b_bar = r•B - e•a_bar`, secrets `hidden messages ++ [r_inv•e, r_inv]` for `r_inv = (-r)⁻¹`) and
any nonces `n`, the recomputed commitment equals the prover's `t` and the pairing relation `b_bar = x • a_bar`
holds. `hpart` says the revealed list and the hidden messages partition the signed vector. -/
theorem bbs_pok_complete (x e r c : F) (A g1 : G) (ys : List G) (msgs ms : List F)
    (rvl : List (Nat × F)) (n : List F) (hr : r ≠ 0)
    (hsig : (x + e) • A = bbsB g1 ys msgs)
    (hpart : msm ys msgs = msm (hiddenGens ys (rvl.map (·.1))) ms + revealedSum ys rvl)
    (hms : ms.length = (hiddenGens ys (rvl.map (·.1))).length)
    (hn : n.length = ms.length + 2) :
    let abar := r • A
    let bbar := r • bbsB g1 ys msgs - e • abar
    let hid := hiddenGens ys (rvl.map (·.1))
    let secrets := ms ++ [(-r)⁻¹ * e, (-r)⁻¹]
    bbsRecommit g1 ys rvl c ⟨abar, bbar, msm (hid ++ [abar, bbar]) n, respond c n secrets⟩
        = msm (hid ++ [abar, bbar]) n
      ∧ bbar = x • abar := by
  intro abar bbar hid secrets
  constructor
  · -- the secrets open `lhs`: `(-r)⁻¹ • (e • a_bar + b_bar) = (-r)⁻¹ • r • B = -B`
    have hrel : msm (hid ++ [abar, bbar]) secrets = bbsLhs g1 ys rvl := by
      rw [msm_append _ _ _ _ hms.symm]
      simp only [msm_cons, msm_nil_left, add_zero, bbsLhs, bbar, mul_smul, ← smul_add, add_sub_cancel]
      rw [smul_smul, inv_neg, neg_mul, inv_mul_cancel₀ hr, neg_one_smul, bbsB, hpart]
      module
    rw [bbsRecommit_eq, ← hrel]
    exact recommit_complete _ c n secrets (by simp [hn, hms]) (by simp [secrets, hms])
  · simp only [bbar, abar]
    rw [← hsig, smul_smul, smul_smul, smul_smul, ← sub_smul]
    congr 1; ring

/-- special soundness of the `t` comparison (response vectors of the checked length): the extracted vector is
hidden messages `ms` followed by `(s₁, s₂)`, and `g1 + Σ_revealed + msm hid ms + s₁•a_bar + s₂•b_bar = 0` -/
theorem bbs_pok_sound (g1 : G) (ys : List G) (rvl : List (Nat × F)) (abar bbar t : G)
    (c c' : F) (p p' : List F) (hc : c ≠ c')
    (hl : p.length = (hiddenGens ys (rvl.map (·.1))).length + 2)
    (hl' : p'.length = (hiddenGens ys (rvl.map (·.1))).length + 2)
    (h1 : t = bbsRecommit g1 ys rvl c ⟨abar, bbar, t, p⟩)
    (h2 : t = bbsRecommit g1 ys rvl c' ⟨abar, bbar, t, p'⟩) :
    ∃ (ms : List F) (s1 s2 : F), ms.length = (hiddenGens ys (rvl.map (·.1))).length ∧
      g1 + revealedSum ys rvl + msm (hiddenGens ys (rvl.map (·.1))) ms + s1 • abar + s2 • bbar = 0 := by
  rw [bbsRecommit_eq] at h1 h2
  obtain ⟨ms, r, hm, hr, hs⟩ := recommit_sound_append _ [abar, bbar] _ t c c' p p' hc hl hl' h1.symm h2.symm
  obtain ⟨s1, s2, rfl⟩ := List.length_eq_two.1 hr
  refine ⟨ms, s1, s2, hm, ?_⟩
  simp only [msm_cons, msm_nil_left, add_zero, bbsLhs] at hs
  rw [add_assoc, add_assoc, hs]
  module

/-- the extracted relation together with the pairing check is a BBS signature on the full vector
(`B = g1 + Σ_revealed + msm hid ms`), provided `s₂ ≠ 0`: `A := -s₂ • a_bar`, `e := s₁/s₂` -/
theorem bbs_extracted_is_signature (x s1 s2 : F) (abar bbar B : G)
    (hrel : B + s1 • abar + s2 • bbar = 0) (hpair : bbar = x • abar) (hs2 : s2 ≠ 0) :
    (x + s1 / s2) • ((-s2) • abar) = B := by
  -- `B = -(s₁ • a_bar + s₂ • x • a_bar)` by `hrel`, and the scalar on the left is `-(x * s₂ + s₁)`
  rw [hpair, add_assoc] at hrel
  rw [eq_neg_of_add_eq_zero_left hrel, smul_smul, mul_neg, add_mul, div_mul_cancel₀ _ hs2]
  module

/-- without the response-count check one extra response makes the recomputed commitment
independent of the challenge (pinned behaviour, finding F02) -/
theorem bbs_overlong_ignores_challenge (g1 : G) (ys : List G) (rvl : List (Nat × F))
    (π : BbsPok F G) (c c' : F)
    (hl : π.proof.length = (hiddenGens ys (rvl.map (·.1))).length + 3) :
    bbsRecommit g1 ys rvl c π = bbsRecommit g1 ys rvl c' π := by
  rw [bbsRecommit_eq, bbsRecommit_eq]
  exact recommit_overlong _ _ c c' π.proof (by simp [hl])

theorem bbsVerify_iff [DecidableEq G] (g1 : G) (ys : List G) (rvl : List (Nat × F)) (c : F)
    (π : BbsPok F G) (pk : Bool) :
    bbsVerify g1 ys rvl c π pk = true ↔
      π.abar ≠ 0 ∧ π.bbar ≠ 0 ∧ π.t ≠ 0 ∧ rvl.all (fun p => decide (p.1 < ys.length)) = true ∧
      (rvl.map (·.1)).Nodup ∧ π.proof.length = (hiddenGens ys (rvl.map (·.1))).length + 2 ∧
      π.t = bbsRecommit g1 ys rvl c π ∧ pk = true := by
  simp only [bbsVerify, Bool.and_eq_true, Bool.not_eq_true', Bool.or_eq_false_iff,
    decide_eq_false_iff_not, decide_eq_true_eq, and_assoc]

/-- **Why `t` has to enter the challenge hash.** For *every* challenge, every response vector of the right length and
every pair `(Ā, B̄)` that passes the pairing test (a harvested pair re-randomised does), the point
`t := bbsRecommit …` makes the verifier accept. If the challenge did not depend on `t`, anybody could pick the responses,
learn the challenge and solve for `t` — a proof without any signature (seeded change `bbs-t-not-hashed`, caught by the
simulated-proof attack of C01). With `t` hashed the challenge is fixed only after `t`, and `bbs_pok_sound` applies. -/
theorem bbs_simulatable_when_t_is_free [DecidableEq G] (g1 : G) (ys : List G) (rvl : List (Nat × F)) (c : F)
    (abar bbar : G) (resp : List F) (ha : abar ≠ 0) (hb : bbar ≠ 0)
    (hl : resp.length = (hiddenGens ys (rvl.map (·.1))).length + 2)
    (hidx : rvl.all (fun p => decide (p.1 < ys.length)) = true) (hnd : (rvl.map (·.1)).Nodup)
    (ht : bbsRecommit g1 ys rvl c ⟨abar, bbar, 0, resp⟩ ≠ 0) :
    bbsVerify g1 ys rvl c ⟨abar, bbar, bbsRecommit g1 ys rvl c ⟨abar, bbar, 0, resp⟩, resp⟩ true = true :=
  (bbsVerify_iff ..).2 ⟨ha, hb, ht, hidx, hnd, hl, rfl, rfl⟩

/-! ### PS -/

/-- PS verification equation (secret-key reading) -/
def PsValid (x ω : F) (yk : List F) (σ1 σ2 : G) (m' : F) (msgs : List F) : Prop :=
  σ1 ≠ 0 ∧ σ2 = (x + m' * ω + (List.zipWith (· * ·) msgs yk).sum) • σ1

/-- `Signature::new`: `σ₂ = (x + m'ω + Σ mᵢyᵢ) • σ₁` verifies -/
theorem ps_sign_verify (x ω m' : F) (yk msgs : List F) (σ1 : G) (h : σ1 ≠ 0) :
    PsValid x ω yk σ1 ((x + m' * ω + (List.zipWith (· * ·) msgs yk).sum) • σ1) m' msgs := ⟨h, rfl⟩

/-- a PS signature valid under two exponents: the exponents agree (so a changed message, key or `m'`
changes the exponent polynomial — equality of exponents is a relation among the secret yᵢ) -/
theorem ps_exponent_binding (k k' : F) (σ1 σ2 : G) (h : σ1 ≠ 0) (h1 : σ2 = k • σ1) (h2 : σ2 = k' • σ1) :
    k = k' :=
  smul_left_injective F h (h1.symm.trans h2)

/-- PS special soundness: the hashed "blind commitment" recomputed for two challenges from response
vectors of the checked length yields `t, m', ms` with `J = t•g2 + m'•w + msm hid ms` -/
theorem ps_pok_sound {G1 : Type} (g2 w : G) (ys : List G) (known : List Nat) (σ1 σ2 : G1) (J R : G)
    (c c' : F) (p p' : List F) (hc : c ≠ c')
    (hl : p.length = (hiddenGens ys known).length + 2) (hl' : p'.length = (hiddenGens ys known).length + 2)
    (h1 : psRecommit g2 w ys known c ⟨σ1, σ2, J, p⟩ = R)
    (h2 : psRecommit g2 w ys known c' ⟨σ1, σ2, J, p'⟩ = R) :
    ∃ (t m' : F) (ms : List F), ms.length = (hiddenGens ys known).length ∧
      J = t • g2 + m' • w + msm (hiddenGens ys known) ms := by
  rw [psRecommit_eq] at h1 h2
  obtain ⟨r, ms, hr, hm, hs⟩ := recommit_sound_append [g2, w] _ J R c c' p p' hc
    (by simp [hl, Nat.add_comm]) (by simp [hl', Nat.add_comm]) h1 h2
  obtain ⟨t, m', rfl⟩ := List.length_eq_two.1 hr
  refine ⟨t, m', ms, hm, ?_⟩
  rw [← hs, msm_cons, msm_cons, msm_nil_left, add_zero]

/-- the extracted opening of `J` and the pairing check give a PS signature `(σ₁, σ₂ - t•σ₁, m')` on the
full vector: if `σ₂ = (x + j) • σ₁` where `j = t + m'ω + Σ mᵢyᵢ` is the exponent of `X + J + Σ_revealed` -/
theorem ps_extracted_is_signature (x ω t m' sm : F) (σ1 σ2 : G) (h : σ2 = (x + (t + m' * ω + sm)) • σ1) :
    σ2 - t • σ1 = (x + m' * ω + sm) • σ1 := by
  rw [h, ← sub_smul]; congr 1; ring

/-- PS completeness of the hashed commitment: responses `n + c•(t, m', ms)` recompute `msm Bs n` -/
theorem ps_pok_complete {G1 : Type} (g2 w : G) (ys : List G) (known : List Nat) (σ1 σ2 : G1)
    (c t m' : F) (ms n : List F) (hms : ms.length = (hiddenGens ys known).length)
    (hn : n.length = ms.length + 2) :
    psRecommit g2 w ys known c
      ⟨σ1, σ2, msm ([g2, w] ++ hiddenGens ys known) (t :: m' :: ms), respond c n (t :: m' :: ms)⟩
      = msm ([g2, w] ++ hiddenGens ys known) n :=
  recommit_complete ([g2, w] ++ hiddenGens ys known) c n (t :: m' :: ms) (by simp [hn, hms]) (by simp [hms])

/-- a concrete instance of the length condition of the soundness theorems -/
example : (hiddenGens [(1:Nat), 2, 3] [1]).length + 2 = 4 := by decide

/-! ### why a key with a generator at infinity must be refused

`bbs_message_binding` binds the message vector only through `msm ys`: a key one of whose generators is the
point at infinity does not bind the message at that position at all — every value there verifies. The
code refuses such keys (`PublicKey::is_invalid`, *any* generator at infinity); the seeded change
`bbs-key-invalid-all-vs-any` weakened that test and is caught by the degenerate-key scenarios. -/

theorem msm_zero_generator (ys : List G) (msgs : List F) (i : Nat) (a : F) (h : ys[i]? = some 0) :
    msm ys (msgs.set i a) = msm ys msgs := by
  cases hm : msgs[i]? with
  | none => rw [List.set_eq_of_length_le (List.getElem?_eq_none_iff.1 hm)]
  | some x => rw [msm_set a h hm, smul_zero, add_zero]

theorem bbs_degenerate_key_unbinds (x e : F) (A g1 : G) (ys : List G) (msgs : List F) (i : Nat) (a : F)
    (h0 : ys[i]? = some 0) (h : BbsValid x e A g1 ys msgs) : BbsValid x e A g1 ys (msgs.set i a) := by
  refine ⟨h.1, ?_⟩
  rw [h.2, bbsB, bbsB, msm_zero_generator ys msgs i a h0]

/-- non-vacuity: a concrete key with its second generator at infinity, two vectors differing there -/
example : msm ([3, 0, 5] : List ℚ) ([1, 7, 2] : List ℚ) = msm ([3, 0, 5] : List ℚ) ([1, 9, 2] : List ℚ) := by
  simp [msm]

end AC.C17
