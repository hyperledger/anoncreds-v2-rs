import AnonCreds.Props.C05
import AnonCreds.Props.C03
/-
C10 — verifiable encryption: whatever verifies decrypts to the signed claim.
`C05.elgamal_sound` extracts from two accepting transcripts `c1 = ρ•g`, `c2 = m•M + ρ•K` with `m` the
difference quotient of the *shared* message response (the signed value by C17); the theorems here
take that opening as hypothesis and derive what the key holder obtains.
-/
namespace AC.C10
open AC.Sigma
variable {F G : Type} [Field F] [AddCommGroup G] [Module F G]

/-- group decryption: `c2 - sk•c1 = m•M` for every accepted ciphertext (key `K = sk•g`) -/
theorem decrypt_correct (g M c1 c2 : G) (sk m ρ : F) (h1 : c1 = ρ • g) (h2 : c2 = m • M + ρ • (sk • g)) :
    c2 - sk • c1 = m • M := by
  rw [h1, h2, smul_comm sk ρ g, add_sub_cancel_right]

/-- pseudonyms: the decrypted value is a function of the signed scalar and the generator only … -/
theorem pseudonym_stable (g M c1 c2 c1' c2' : G) (sk m ρ ρ' : F)
    (h1 : c1 = ρ • g) (h2 : c2 = m • M + ρ • (sk • g))
    (h1' : c1' = ρ' • g) (h2' : c2' = m • M + ρ' • (sk • g)) :
    c2 - sk • c1 = c2' - sk • c1' := by
  rw [decrypt_correct g M c1 c2 sk m ρ h1 h2, decrypt_correct g M c1' c2' sk m ρ' h1' h2']

/-- … and two different generators give the same pseudonym only for the zero scalar -/
theorem pseudonym_generators (M M' : G) (m : F) (h : m • M = m • M') : m = 0 ∨ M = M' := by
  by_cases hm : m = 0
  · exact Or.inl hm
  · exact Or.inr (smul_right_injective G hm h)

/-- byte decomposition: if every byte ciphertext opens to `(byteᵢ, bᵢ)`, the weighted sum check
`Σ wᵢ•c2ᵢ = c2` holds and `c2 = m•M + ρ•K`, then `(Σ wᵢ byteᵢ - m)•M + (Σ wᵢ bᵢ - ρ)•K = 0` -/
theorem bytes_relation (M K c2 : G) (ws bytes bs : List F) (m ρ : F)
    (hl : ws.length = bytes.length) (hl' : ws.length = bs.length)
    (hsum : msm (List.zipWith (fun by_ b => by_ • M + b • K) bytes bs) ws = c2)
    (hc2 : c2 = m • M + ρ • K) :
    ((List.zipWith (· * ·) ws bytes).sum - m) • M + ((List.zipWith (· * ·) ws bs).sum - ρ) • K = 0 := by
  rw [C03.byte_sum_complete M K ws bytes bs hl hl', hc2] at hsum
  rw [sub_smul, sub_smul, sub_add_sub_comm, hsum, sub_self]

/-- hence, unless the statement's generator and the encryption key satisfy a discrete-log relation,
the bytes represent the signed scalar **modulo the group order** -/
theorem bytes_sound (M K c2 : G) (ws bytes bs : List F) (m ρ : F)
    (hl : ws.length = bytes.length) (hl' : ws.length = bs.length)
    (hsum : msm (List.zipWith (fun by_ b => by_ • M + b • K) bytes bs) ws = c2)
    (hc2 : c2 = m • M + ρ • K)
    (hind : ∀ a b : F, a • M + b • K = 0 → a = 0 ∧ b = 0) :
    (List.zipWith (· * ·) ws bytes).sum = m := by
  have := hind _ _ (bytes_relation M K c2 ws bytes bs m ρ hl hl' hsum hc2)
  exact sub_eq_zero.mp this.1

/-- `decrypt_scalar` after the repair: the integer read from the 32 bytes is reduced modulo `r`; if it is
congruent to the canonical scalar `m < r` the result is `m` — in particular for the bytes of `m + r` -/
theorem reduce_recovers (r B m : Nat) (hm : m < r) (hcong : B % r = m % r) : B % r = m := by
  rw [hcong, Nat.mod_eq_of_lt hm]

/-- the pinned decoder insisted on `B < r` and therefore failed on the valid representation `m + r` -/
theorem pinned_rejects_m_plus_r (r m : Nat) : ¬ (m + r < r) := by omega

/-- encrypt-and-decrypt: a claim returned by `decrypt_and_verify` satisfies
`enc(claim)•M_proof = c2 - sk•c1`; with `M_proof = M ≠ 0` (enforced by the repaired verifier) its encoding is the signed
scalar -/
theorem ved_returns_signed (M c1 c2 g : G) (sk m ρ e : F) (hM : M ≠ 0)
    (h1 : c1 = ρ • g) (h2 : c2 = m • M + ρ • (sk • g)) (hchk : e • M = c2 - sk • c1) : e = m := by
  rw [decrypt_correct g M c1 c2 sk m ρ h1 h2] at hchk
  exact smul_left_injective F hM hchk

/-- with a generator carried in the proof and not compared to the statement (pinned, finding F09) any
other encoding `e'` passes the check for the generator `(m/e')•M` -/
theorem pinned_generator_swap (M : G) (m e' : F) (he : e' ≠ 0) : e' • ((m / e') • M) = m • M := by
  rw [smul_smul, mul_div_cancel₀ _ he]

/-- the Schnorr relation of the encrypt-and-decrypt statement must be recomputed under the **statement's**
generator `M`: the link to the signed claim is the message term `pm • M` (`pm` = the signature proof's
response). Recomputed under a generator `N` carried in the proof, the relation holds for `N = 0`, `c2 = b•K`,
whatever the signed claim and whatever `pm` is — and the decryption check `e'•N = c2 - sk•c1` then passes
for every claim `e'` (seeded change `ved-r2-under-carried-generator`; caught by the hand-written holder) -/
theorem ved_identity_generator_unbinds (K g : G) (sk b r c pm e' : F) (hK : K = sk • g) :
    (-c) • (b • K) + pm • (0 : G) + (r + c * b) • K = r • K ∧
    e' • (0 : G) = b • K - sk • (b • g) := by
  subst hK
  constructor <;> module

/-- under the statement's generator the same relation does bind: two accepting answers to one commitment
with different challenges give `c2 = m•M + b•K` with `m` the witness of the signature proof's response
(`C05.elgamal_sound`), and `ved_returns_signed` then gives the signed claim -/
theorem ved_statement_generator_binds (M K c2 R2 : G) (c c' pm pm' pb pb' : F) (hc : c ≠ c')
    (h : R2 = (-c) • c2 + pm • M + pb • K) (h' : R2 = (-c') • c2 + pm' • M + pb' • K) :
    c2 = ((pm - pm') / (c - c')) • M + ((pb - pb') / (c - c')) • K :=
  -- the hashed expression is `commitmentRecommit M K c2 c pm pb` unfolded
  C05.commitment_sound M K c2 R2 c c' pm pm' pb pb' hc h.symm h'.symm

/-- presence of the decryptable part is decided by the statement (repair of F07) -/
def partCheck (allow hasPart : Bool) : Bool := allow == hasPart

theorem requested_part_present (hasPart : Bool) (h : partCheck true hasPart = true) : hasPart = true :=
  (eq_of_beq h).symm

end AC.C10
