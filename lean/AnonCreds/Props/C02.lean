import AnonCreds.Model.Create
import AnonCreds.Proofs.Lists
import Mathlib.Data.List.Perm.Subperm
import Mathlib.Data.List.Nodup
/-
C02 — disclosed claims are exactly those requested and exactly what the issuer signed.
`checkDisclosed` (the repaired tie between reported map, proof map and request) is characterised
exactly, and `C01.verify_ok_covers_signature_statements` says every accepted presentation passed it;
the proof map is what the proof of knowledge is verified against (C17 soundness), so the extracted
signed vector carries `enc (reported l)` at the schema index of every reported label `l`.
-/
namespace AC.C02
open AC.Verify
variable {F : Type} [DecidableEq F]

theorem indexOf?_eq (labels : List String) (l : String) : indexOf? labels l = labels.idxOf? l := by
  unfold indexOf? List.idxOf?
  cases List.findIdx? _ labels <;> rfl

theorem getElem?_of_indexOf? {labels : List String} {l : String} {i : Nat} (h : indexOf? labels l = some i) :
    labels[i]? = some l := by
  rw [indexOf?_eq, List.idxOf?_eq_some_iff] at h
  obtain ⟨hlt, rfl, _⟩ := h
  exact List.getElem?_eq_getElem hlt

theorem indexOf?_mem {labels : List String} {l : String} {i : Nat} (h : indexOf? labels l = some i) :
    l ∈ labels := List.mem_of_getElem? (getElem?_of_indexOf? h)

theorem indexOf_nodup (labels : List String) (hnd : labels.Nodup) (i : Nat) (l : String)
    (h : labels[i]? = some l) : indexOf? labels l = some i := by
  obtain ⟨hlt, rfl⟩ := List.getElem?_eq_some_iff.mp h
  rw [indexOf?_eq, List.idxOf?_eq_some_iff]
  exact ⟨hlt, rfl, fun j hji e => Nat.ne_of_lt hji (hnd.getElem_inj_iff.mp e)⟩

/-- `checkDisclosed` as a proposition: the two counts, and what it demands of every reported claim -/
theorem checkDisclosed_iff (enc : ClaimData → F) (ss : SigStmt) (inner : Inner F)
    (rep : List (String × ClaimData)) :
    checkDisclosed enc ss inner rep = true ↔
      rep.length = (ss.disclosed.filter (ss.labels.contains ·)).length ∧ inner.length = rep.length ∧
      ∀ l c, (l, c) ∈ rep → l ∈ ss.disclosed ∧ ∃ i, indexOf? ss.labels l = some i ∧
        ss.types[i]? = some c.type ∧ inner.lookup i = some (enc c) := by
  unfold checkDisclosed
  simp only [Bool.and_eq_true, beq_iff_eq, List.all_eq_true, and_assoc, Prod.forall,
    List.contains_eq_mem, decide_eq_true_eq]
  refine and_congr_right fun _ => and_congr_right fun _ => forall₂_congr fun l c =>
    imp_congr_right fun _ => and_congr_right fun _ => ?_
  cases indexOf? ss.labels l with
  | none => simp
  | some i => cases ht : ss.types[i]? <;> simp [ht, eq_comm (a := c.type)]

/-- every reported claim is requested, known to the schema, of the schema's type, and the proof's
map holds its encoding at the schema's index -/
theorem checkDisclosed_values (enc : ClaimData → F) (ss : SigStmt) (inner : Inner F)
    (rep : List (String × ClaimData)) (h : checkDisclosed enc ss inner rep = true)
    (l : String) (c : ClaimData) (hm : (l, c) ∈ rep) :
    l ∈ ss.disclosed ∧ ∃ i, indexOf? ss.labels l = some i ∧ ss.labels[i]? = some l ∧
      ss.types[i]? = some c.type ∧ inner.lookup i = some (enc c) := by
  obtain ⟨hd, i, hi, ht, hv⟩ := ((checkDisclosed_iff enc ss inner rep).mp h).2.2 l c hm
  exact ⟨hd, i, hi, getElem?_of_indexOf? hi, ht, hv⟩

/-- with unique keys in the reported map, the reported labels are, up to order, the requested labels
that exist in the issuer's schema: they are among them, they are distinct, and there are as many -/
theorem checkDisclosed_labels_perm (enc : ClaimData → F) (ss : SigStmt) (inner : Inner F)
    (rep : List (String × ClaimData)) (h : checkDisclosed enc ss inner rep = true)
    (hrep : (rep.map (·.1)).Nodup) :
    (rep.map (·.1)).Perm (ss.disclosed.filter (ss.labels.contains ·)) := by
  obtain ⟨hlen, _, hall⟩ := (checkDisclosed_iff enc ss inner rep).mp h
  refine (List.subperm_of_subset hrep fun x hx => ?_).perm_of_length_le (Nat.le_of_eq (by rw [List.length_map, hlen]))
  obtain ⟨⟨l, c⟩, hm, rfl⟩ := List.mem_map.mp hx
  obtain ⟨hd, i, hi, _⟩ := hall l c hm
  exact List.mem_filter.mpr ⟨hd, List.contains_iff_mem.mpr (indexOf?_mem hi)⟩

/-- **label exactness**: with unique keys in the reported map and in the request, the reported label
set is exactly the requested labels that exist in the issuer's schema — nothing withheld, nothing extra -/
theorem checkDisclosed_labels (enc : ClaimData → F) (ss : SigStmt) (inner : Inner F)
    (rep : List (String × ClaimData)) (h : checkDisclosed enc ss inner rep = true)
    (hrep : (rep.map (·.1)).Nodup) (hreq : ss.disclosed.Nodup) (l : String) :
    l ∈ rep.map (·.1) ↔ (l ∈ ss.disclosed ∧ l ∈ ss.labels) := by
  rw [(checkDisclosed_labels_perm enc ss inner rep h hrep).mem_iff, List.mem_filter, List.contains_iff_mem]

/-- **value exactness** of the proof's map: with unique keys, every entry of the map the proof of
knowledge is checked against is the encoding of a reported claim at its schema index -/
theorem checkDisclosed_inner_exact (enc : ClaimData → F) (ss : SigStmt) (inner : Inner F)
    (rep : List (String × ClaimData)) (h : checkDisclosed enc ss inner rep = true)
    (hrep : (rep.map (·.1)).Nodup) (hinner : (inner.map (·.1)).Nodup)
    (i : Nat) (hi : i ∈ inner.map (·.1)) :
    ∃ l c, (l, c) ∈ rep ∧ indexOf? ss.labels l = some i ∧ inner.lookup i = some (enc c) := by
  obtain ⟨_, hlen, hall⟩ := (checkDisclosed_iff enc ss inner rep).mp h
  -- `idx l c`: the schema index of a reported claim
  choose! _ idx hidx _ hval using hall
  let f : String × ClaimData → Nat := fun lc => idx lc.1 lc.2
  -- distinct labels have distinct indices, and every index is a key of `inner` …
  have hinj : (rep.map f).Nodup := by
    refine (List.nodup_map_iff_inj_on (List.Nodup.of_map _ hrep)).mpr fun a ha b hb hab => ?_
    have ea := getElem?_of_indexOf? (hidx a.1 a.2 ha)
    rw [show idx a.1 a.2 = idx b.1 b.2 from hab, getElem?_of_indexOf? (hidx b.1 b.2 hb)] at ea
    exact (List.inj_on_of_nodup_map hrep hb ha (Option.some.inj ea)).symm
  have hsub : rep.map f ⊆ inner.map (·.1) := by
    intro j hj
    obtain ⟨lc, hm, rfl⟩ := List.mem_map.mp hj
    exact List.mem_map.mpr ⟨_, mem_of_lookup (hval lc.1 lc.2 hm), rfl⟩
  -- … so with as many keys as reported claims, every key is such an index
  have hperm := (List.subperm_of_subset hinj hsub).perm_of_length_le (by simp [hlen])
  obtain ⟨⟨l, c⟩, hm, rfl⟩ := List.mem_map.mp (hperm.mem_iff.mpr hi)
  exact ⟨l, c, hm, hidx l c hm, hval l c hm⟩

/-- the pinned verifier accepted whatever the reported map said; in the repaired model a reported
value whose encoding differs from the proof's entry is rejected, whatever else the object contains -/
theorem substituted_value_rejected (enc : ClaimData → F) (ss : SigStmt) (inner : Inner F)
    (rep : List (String × ClaimData)) (l : String) (c : ClaimData) (i : Nat) (hm : (l, c) ∈ rep)
    (hi : indexOf? ss.labels l = some i) (hne : inner.lookup i ≠ some (enc c)) :
    checkDisclosed enc ss inner rep = false := by
  refine Bool.eq_false_iff.mpr fun h => ?_
  obtain ⟨_, j, hj, _, hv⟩ := ((checkDisclosed_iff enc ss inner rep).mp h).2.2 l c hm
  rw [hi] at hj
  cases hj
  exact hne hv

/-- non-vacuity: a concrete request / report / proof map passes the check -/
example : checkDisclosed (F := Nat) (fun c => match c with | .number v => v.toNat | _ => 0)
    ⟨"s", ["age", "zip"], ["id", "age"], [.revocation, .number]⟩ [(1, 30)] [("age", .number 30)] = true := by
  decide

/-! ### what the honest prover reports (model `Create.createDisclosed`, tie `cr.proofs`) -/

open AC.Create

theorem mem_revealedIdx (v : List Msg) (i : Nat) : i ∈ revealedIdx v ↔ v[i]? = some Msg.revealed := by
  rw [revealedIdx, List.mem_filter, List.mem_range, beq_iff_eq]
  exact ⟨fun h => h.2, fun h => ⟨(List.getElem?_eq_some_iff.mp h).1, h⟩⟩

/-- a message vector built from a label list marks exactly the positions of requested labels as revealed -/
theorem mem_revealedIdx_map (disclosed ls : List String) (i : Nat) :
    i ∈ revealedIdx (ls.map fun l => if disclosed.contains l then Msg.revealed else Msg.hidden)
      ↔ ∃ l, ls[i]? = some l ∧ l ∈ disclosed := by
  rw [mem_revealedIdx, List.getElem?_map]
  cases ls[i]? <;> simp

/-- the message vector `create` builds for a signature statement marks exactly the requested labels as revealed -/
theorem revealedIdx_spec (disclosed labels : List String) (n i : Nat) :
    i ∈ revealedIdx ((labels.take n).map fun l => if disclosed.contains l then Msg.revealed else Msg.hidden)
      ↔ ∃ l, (labels.take n)[i]? = some l ∧ l ∈ disclosed :=
  mem_revealedIdx_map disclosed (labels.take n) i

/-- **What the honest prover reports.** For a credential with `n` claims under a statement requesting
`disclosed`, the labels `create` files under the statement's id (model `Create.createDisclosed`, compared with
the real `disclosed_messages` by `cr.proofs`) are exactly the requested labels among the first `n` labels of
the issuer schema — the left-hand side of the verifier's check `checkDisclosed_labels`. -/
theorem create_reports_exactly_requested (disclosed labels : List String) (n : Nat) (l : String) :
    l ∈ (revealedIdx ((labels.take n).map fun l => if disclosed.contains l then Msg.revealed else Msg.hidden)).filterMap
          (labels[·]?)
      ↔ l ∈ labels.take n ∧ l ∈ disclosed := by
  simp only [List.mem_filterMap, revealedIdx_spec]
  constructor
  · rintro ⟨i, ⟨l', hl', hd⟩, hl⟩
    obtain rfl : l' = l := Option.some.inj ((getElem?_of_take hl').symm.trans hl)
    exact ⟨List.mem_of_getElem? hl', hd⟩
  · rintro ⟨hm, hd⟩
    obtain ⟨i, hi⟩ := List.mem_iff_getElem?.1 hm
    exact ⟨i, ⟨l, hi, hd⟩, getElem?_of_take hi⟩

example : (revealedIdx ((["a", "b", "c"].take 3).map fun l => if ["c", "a", "z"].contains l then Msg.revealed else Msg.hidden)).filterMap
    (["a", "b", "c"][·]?) = ["a", "c"] := by decide

/-! ### the honest report passes the verifier's check -/

/-- counting by index = counting by element -/
theorem length_filter_range (l : List String) (p : String → Bool) :
    ((List.range l.length).filter fun i => match l[i]? with | some a => p a | none => false).length
      = (l.filter p).length := by
  induction l with
  | nil => rfl
  | cons a l ih =>
    rw [List.length_cons, List.range_succ_eq_map, List.filter_cons, List.filter_map, List.filter_cons,
      List.getElem?_cons_zero]
    simp only [Function.comp_def, List.getElem?_cons_succ]
    split <;> simp [ih]

theorem filter_mem_comm_length (a b : List String) (ha : a.Nodup) (hb : b.Nodup) :
    (a.filter (b.contains ·)).length = (b.filter (a.contains ·)).length := by
  apply List.Perm.length_eq
  rw [List.perm_ext_iff_of_nodup (ha.filter _) (hb.filter _)]
  intro x
  simp only [List.mem_filter, List.contains_eq_mem, decide_eq_true_eq]
  exact and_comm

/-- the message vector for a credential that has a claim for every label -/
def fullVector (disclosed labels : List String) : List Msg :=
  labels.map fun l => if disclosed.contains l then Msg.revealed else Msg.hidden

theorem mem_revealedIdx_full (disclosed labels : List String) (i : Nat) :
    i ∈ revealedIdx (fullVector disclosed labels) ↔ ∃ l, labels[i]? = some l ∧ l ∈ disclosed :=
  mem_revealedIdx_map disclosed labels i

/-- as many revealed positions as requested labels known to the schema -/
theorem length_revealedIdx_full (disclosed labels : List String) (hl : labels.Nodup) (hd : disclosed.Nodup) :
    (revealedIdx (fullVector disclosed labels)).length = (disclosed.filter (labels.contains ·)).length := by
  rw [← filter_mem_comm_length labels disclosed hl hd, ← length_filter_range labels (disclosed.contains ·),
    revealedIdx, fullVector, List.length_map]
  congr 1
  refine List.filter_congr fun i _ => ?_
  rw [List.getElem?_map]
  cases labels[i]? with
  | none => rfl
  | some a => by_cases h : a ∈ disclosed <;> simp [h]

/-- **The honest report passes the disclosed-claims check.** A credential with one claim per schema label,
each of the schema's type, presented under a statement requesting `disclosed`: the reported map (labels of the
revealed claims with the claims, as `create` files them) and the signature proof's index → scalar map (the
encodings of the revealed claims) pass `checkDisclosed` — for every schema with distinct labels, every
requested set (labels unknown to the schema included) and every claim vector. With `create_passes_verify_plan`
this discharges that theorem's hypothesis about the disclosed-claims check. -/
theorem honest_report_passes_check {F : Type} [DecidableEq F] (enc : ClaimData → F) (id : String)
    (disclosed labels : List String) (types : List ClaimType) (claims : List ClaimData)
    (hl : labels.Nodup) (hd : disclosed.Nodup)
    (hn : claims.length = labels.length) (ht : types.length = labels.length)
    (hty : ∀ (i : Nat) (c : ClaimData) (t : ClaimType), claims[i]? = some c → types[i]? = some t → c.type = t) :
    let idx := revealedIdx (fullVector disclosed labels)
    let rep := idx.filterMap fun i => match labels[i]?, claims[i]? with
      | some l, some c => some (l, c)
      | _, _ => none
    let inner : Inner F := idx.filterMap fun i => (claims[i]?).map fun c => (i, enc c)
    checkDisclosed enc ⟨id, disclosed, labels, types⟩ inner rep = true := by
  intro idx rep inner
  -- every revealed index has a requested label and a claim of the schema's type
  have hidx : ∀ i ∈ idx, ∃ l c, labels[i]? = some l ∧ l ∈ disclosed ∧ claims[i]? = some c ∧
      types[i]? = some c.type := by
    intro i hi
    obtain ⟨l, hl', hd'⟩ := (mem_revealedIdx_full disclosed labels i).1 hi
    have hlt := (List.getElem?_eq_some_iff.mp hl').1
    have hc := List.getElem?_eq_getElem (hn ▸ hlt : i < claims.length)
    have htp := List.getElem?_eq_getElem (ht ▸ hlt : i < types.length)
    exact ⟨l, _, hl', hd', hc, by rw [htp, hty i _ _ hc htp]⟩
  -- so the report and the proof's map are tabulations over the revealed indices
  choose! lab cl hlab hreq hcl htyp using hidx
  have hrep : rep = idx.map fun i => (lab i, cl i) :=
    List.filterMap_eq_map_iff_forall_eq_some.mpr fun i hi => by rw [hlab i hi, hcl i hi]
  have hinner : inner = idx.map fun i => (i, enc (cl i)) :=
    List.filterMap_eq_map_iff_forall_eq_some.mpr fun i hi => by rw [hcl i hi]; rfl
  rw [hrep, hinner, checkDisclosed_iff]
  refine ⟨by rw [List.length_map, length_revealedIdx_full disclosed labels hl hd],
    by rw [List.length_map, List.length_map], fun l c hmem => ?_⟩
  obtain ⟨i, hi, e⟩ := List.mem_map.mp hmem
  obtain ⟨rfl, rfl⟩ := Prod.mk.inj e
  exact ⟨hreq i hi, i, indexOf_nodup labels hl i _ (hlab i hi), htyp i hi,
    lookup_map_graph (fun i => enc (cl i)) hi⟩

/-- the hypotheses of `honest_report_passes_check` are satisfiable, with a requested label the schema lacks
and a requested set listed in another order than the schema -/
example : checkDisclosed (F := Nat) (fun c => match c with | .number v => v.toNat | _ => 0)
    ⟨"s", ["c", "a", "z"], ["a", "b", "c"], [.number, .scalar, .number]⟩
    [(0, 7), (2, 9)] [("a", .number 7), ("c", .number 9)] = true :=
  honest_report_passes_check (F := Nat) (fun c => match c with | .number v => v.toNat | _ => 0) "s"
    ["c", "a", "z"] ["a", "b", "c"] [.number, .scalar, .number] [.number 7, .scalar 5, .number 9]
    (by decide) (by decide) rfl rfl
    (by
      intro i c t hc ht
      match i with
      | 0 | 1 | 2 => cases hc; cases ht; rfl
      | (k + 3) => cases hc)

end AC.C02
