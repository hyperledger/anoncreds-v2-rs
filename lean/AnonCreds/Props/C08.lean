import AnonCreds.Model.Range
import AnonCreds.Props.C18
/-
C08 — range statements hold exactly when lower ≤ v ≤ upper over all of i64.
Everything is arithmetic on integers: the claim's encoding `zc v = v + 2^63` embeds i64 into u64 in
order (C18), the verifier derives the commitments `C - zc(lo)•M` and `C + (2^64-1-zc(up))•M`, and a
64-bit bulletproof asserts that the committed field element has a representative `< 2^64`. With
`2^65 < r` a negative difference wraps to `r - k ≥ 2^64`, so both range claims hold exactly for
in-range values — over the entire signed domain, both extremes included. Bulletproof soundness /
completeness is the trusted third-party contract; the prover's u64 arithmetic is shown not to wrap
exactly when its pre-check passes.
-/
namespace AC.C08
open AC AC.Range AC.C18

/-- subtraction modulo `m` does not wrap when `b ≤ a` -/
theorem sub_mod_of_le {a b m : Nat} (ha : a < m) (h : b ≤ a) : (a + m - b) % m = a - b := by
  rw [Nat.sub_add_comm h, Nat.add_mod_right, Nat.mod_eq_of_lt (by omega)]

/-! The arithmetic, on numbers `a b c` below `t` (= 2^64, the encodings of `v`, `lo`, `up`): reduction
modulo `t` is the prover's wrapping u64, reduction modulo `r > 2t` the verifier's field. -/
section
variable {a b c t r : Nat}

theorem field_sub_lt_iff (ha : a < t) (hb : b < t) (hr : 2 * t < r) : (a + r - b % r) % r < t ↔ b ≤ a := by
  rw [Nat.mod_eq_of_lt (show b < r by omega)]
  by_cases h : b ≤ a
  · rw [sub_mod_of_le (by omega) h]
    omega
  · -- the negative difference wraps to `r - k` with `k < t`
    rw [Nat.mod_eq_of_lt (by omega)]
    omega

theorem field_add_lt_iff (ha : a < t) (hc : c < t) (hr : 2 * t < r) : (a + (t - 1 - c)) % r < t ↔ a ≤ c := by
  rw [Nat.mod_eq_of_lt (by omega)]
  omega

theorem u64_sub_exact (ha : a < t) (hr : 2 * t < r) (h : b ≤ a) : (a + t - b) % t = (a + r - b % r) % r := by
  rw [Nat.mod_eq_of_lt (show b < r by omega), sub_mod_of_le ha h, sub_mod_of_le (by omega) h]

theorem u64_add_exact (hc : c < t) (hr : 2 * t < r) (h : a ≤ c) :
    (a + (t - 1 - c)) % t = (a + (t - 1 - c)) % r := by
  rw [Nat.mod_eq_of_lt (show a + (t - 1 - c) < t by omega), Nat.mod_eq_of_lt (show a + (t - 1 - c) < r by omega)]

end

/-- lower bound: the opened value is `< 2^64` iff `lo ≤ v` -/
theorem lower_ok_iff (r : Nat) (hr : 2 * two64 < r) (v lo : Int) (hv : I64 v) (hl : I64 lo) :
    fieldLower r v lo < two64 ↔ lo ≤ v :=
  (field_sub_lt_iff (zeroCenter_lt v) (zeroCenter_lt lo) hr).trans (zeroCenter_le_iff lo v hl hv)

/-- upper bound: the opened value is `< 2^64` iff `v ≤ up` -/
theorem upper_ok_iff (r : Nat) (hr : 2 * two64 < r) (v up : Int) (hv : I64 v) (hu : I64 up) :
    fieldUpper r v up < two64 ↔ v ≤ up :=
  (field_add_lt_iff (zeroCenter_lt v) (zeroCenter_lt up) hr).trans (zeroCenter_le_iff v up hv hu)

/-- **Exactness of the statement.** The two bulletproof claims are jointly satisfiable iff
`lower ≤ v ≤ upper` (a missing bound meaning unbounded) -/
theorem verifier_satisfiable_iff (r : Nat) (hr : 2 * two64 < r) (v : Int) (lower upper : Option Int)
    (hv : I64 v) (hl : ∀ l, lower = some l → I64 l) (hu : ∀ u, upper = some u → I64 u) :
    verifierSatisfiable r v lower upper = true ↔
      (∀ l, lower = some l → l ≤ v) ∧ (∀ u, upper = some u → v ≤ u) := by
  unfold verifierSatisfiable
  rw [Bool.and_eq_true]
  refine and_congr ?_ ?_
  · cases lower with
    | none => simp
    | some l => simp [lower_ok_iff r hr v l hv (hl l rfl)]
  · cases upper with
    | none => simp
    | some u => simp [upper_ok_iff r hr v u hv (hu u rfl)]

/-- the honest prover's pre-check is the same condition -/
theorem prover_accepts_iff (v : Int) (lower upper : Option Int) (hv : I64 v) :
    proverAccepts v lower upper = true ↔
      (∀ l, lower = some l → l ≤ v) ∧ (∀ u, upper = some u → v ≤ u) := by
  unfold proverAccepts
  rw [Bool.and_eq_true, decide_eq_true_iff, decide_eq_true_iff]
  -- a missing bound stands for the end of the i64 domain, which `v` meets
  refine and_congr ?_ ?_
  · cases lower with
    | none => exact iff_of_true hv.1 nofun
    | some l => simp
  · cases upper with
    | none => exact iff_of_true (Int.le_sub_one_of_lt hv.2) nofun
    | some u => simp

/-- when the pre-check passes the u64 arithmetic does not wrap and the prover's adjusted values are
exactly the field elements the verifier's derived commitments open to (same blinder) -/
theorem prover_values_exact (r : Nat) (hr : 2 * two64 < r) (v lo up : Int) (hv : I64 v) (hl : I64 lo)
    (hu : I64 up) (h1 : lo ≤ v) (h2 : v ≤ up) :
    adjustedLower v lo = fieldLower r v lo ∧ adjustedUpper v up = fieldUpper r v up
    ∧ adjustedLower v lo < two64 ∧ adjustedUpper v up < two64 :=
  -- the last two hold of any input: the adjusted values are reduced modulo `2^64`
  have pos : 0 < two64 := Nat.lt_of_le_of_lt (Nat.zero_le _) (zeroCenter_lt v)
  ⟨u64_sub_exact (zeroCenter_lt v) hr ((zeroCenter_le_iff lo v hl hv).mpr h1),
    u64_add_exact (zeroCenter_lt up) hr ((zeroCenter_le_iff v up hv hu).mpr h2),
    Nat.mod_lt _ pos, Nat.mod_lt _ pos⟩

/-- the BLS12-381 group order satisfies the size hypothesis -/
theorem rOrder_large : 2 * two64 < rOrder := by decide

/-- non-vacuity at the extremes of the domain -/
example : verifierSatisfiable rOrder (-9223372036854775808) (some (-9223372036854775808)) (some 9223372036854775807) = true := by
  decide
example : verifierSatisfiable rOrder (-1) (some 0) none = false := by decide
example : verifierSatisfiable rOrder 9223372036854775807 none (some 9223372036854775806) = false := by decide

end AC.C08
