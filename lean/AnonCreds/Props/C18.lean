import AnonCreds.Proofs.Num
import AnonCreds.Proofs.Pack
/-
C18 — claim encodings are deterministic, collision-free, monotone and reversible.
Facts that need no domain hypothesis live in `Proofs/`. Determinism is by construction (the
encodings are Lean functions). `I64 v` is the domain of `isize` on the 64-bit targets the crate supports.
-/
namespace AC.C18
open AC

def I64 (v : Int) : Prop := -(two63 : Int) ≤ v ∧ v < (two63 : Int)

/-- `as u64` on the `i64` domain: negative values wrap by `2^64` -/
theorem asU64_cast (v : Int) (h : I64 v) : (asU64 v : Int) = if 0 ≤ v then v else v + (two64 : Int) := by
  obtain ⟨hlo, hhi⟩ := h
  have h64 := two64_eq
  unfold asU64
  split
  · rw [Int.emod_eq_of_lt ‹_› (by omega), Int.toNat_of_nonneg ‹_›]
  · rw [← Int.add_emod_right, Int.emod_eq_of_lt (by omega) (by omega), Int.toNat_of_nonneg (by omega)]

/-- `as isize` undoes `as u64` on the `i64` domain (and `asU64_asI64` is the other direction) -/
theorem asI64_asU64 (v : Int) (h : I64 v) : asI64 (asU64 v) = v := by
  have hu := asU64_cast v h
  obtain ⟨hlo, hhi⟩ := h
  have h64 := two64_eq
  unfold asI64
  omega

/-- the sign-bit flip is translation by 2^63 on all of i64 -/
theorem zeroCenter_eq_add (v : Int) (h : I64 v) : (zeroCenter v : Int) = v + (two63 : Int) := by
  have hu := asU64_cast v h
  obtain ⟨hlo, hhi⟩ := h
  have h64 := two64_eq
  rw [zeroCenter, xor_pow_eq two63_pow (two64_eq ▸ asU64_lt v)]
  split <;> omega

/-- order preservation: `a < b → enc a < enc b` (as 64-bit integers, hence as field elements) -/
theorem number_strictMono (a b : Int) (ha : I64 a) (hb : I64 b) (hab : a < b) :
    numberToScalar a < numberToScalar b := by
  have := zeroCenter_eq_add a ha
  have := zeroCenter_eq_add b hb
  unfold numberToScalar
  omega

/-- the encoding is an order embedding of i64 into u64 -/
theorem zeroCenter_le_iff (a b : Int) (ha : I64 a) (hb : I64 b) : zeroCenter a ≤ zeroCenter b ↔ a ≤ b := by
  have := zeroCenter_eq_add a ha
  have := zeroCenter_eq_add b hb
  omega

theorem number_injective (a b : Int) (ha : I64 a) (hb : I64 b)
    (h : numberToScalar a = numberToScalar b) : a = b := by
  have := zeroCenter_eq_add a ha
  have := zeroCenter_eq_add b hb
  unfold numberToScalar at h
  omega

/-- the encoding fits 64 bits, so it is a canonical scalar -/
theorem number_canonical (v : Int) (h : I64 v) : numberToScalar v < rOrder :=
  -- true of every `v`, in the domain or not: `zero_center` always yields a u64
  Nat.lt_trans (zeroCenter_lt v) (by decide)

/-- decoding an encoded integer yields it wrapped to 64 bits, in the domain or not: `as isize` and
`as u64` cancel in between, so the same bit of `v as u64` is flipped twice -/
theorem number_roundtrip_wrap (v : Int) : numberFromScalar (numberToScalar v) = asI64 (asU64 v) := by
  unfold numberFromScalar numberToScalar
  rw [Nat.mod_eq_of_lt (zeroCenter_lt v), zeroCenter, asU64_asI64 _ (zeroCenter_lt v), zeroCenter,
    Nat.xor_assoc, Nat.xor_self, Nat.xor_zero]

/-- invertibility: `NumberClaim::from(to_scalar(v)) = v` on all of i64 -/
theorem number_roundtrip (v : Int) (h : I64 v) : numberFromScalar (numberToScalar v) = v :=
  (number_roundtrip_wrap v).trans (asI64_asU64 v h)

/-- packing ≤ 31 bytes always succeeds, yields a canonical scalar, and unpacks to the input -/
theorem pack_unpack_bytes (b : Bytes) (h : b.length ≤ 31) :
    ∃ n, encodeBytes b = .ok n ∧ n < rOrder ∧ decodeToBytes n = .ok b := by
  have hc := packBuffer_canonical b h
  refine ⟨beVal (packBuffer b), ?_, hc, ?_⟩
  · unfold encodeBytes
    rw [if_neg (by omega)]
    exact if_pos hc
  · unfold decodeToBytes decodeToBytesAt tailOfLen
    rw [toBE_beVal _ (packBuffer_length b h), packBuffer_head b h, if_neg (by omega), packBuffer_drop b h]

/-- strings: `decode_to_str (encode_str s) = s` for valid UTF-8 of at most 31 bytes -/
theorem pack_unpack_str (b : Bytes) (h : b.length ≤ 31) (hu : utf8Valid b = true) :
    ∃ n, encodeBytes b = .ok n ∧ decodeToStr n = .ok b := by
  obtain ⟨n, h1, _, h3⟩ := pack_unpack_bytes b h
  refine ⟨n, h1, ?_⟩
  unfold decodeToBytes decodeToBytesAt at h3
  rw [decodeToStr, h3]
  exact if_pos hu

theorem pack_rejects_long (b : Bytes) (h : 31 < b.length) : encodeBytes b = .err := if_pos h

/-- unpacking inverts packing wherever packing succeeds -/
theorem unpack_pack {a : Bytes} {n : Nat} (h : encodeBytes a = .ok n) : decodeToBytes n = .ok a := by
  have la : a.length ≤ 31 := Nat.le_of_not_lt fun hl => nomatch (pack_rejects_long a hl).symm.trans h
  obtain ⟨m, h1, _, d⟩ := pack_unpack_bytes a la
  cases h.symm.trans h1
  exact d

/-- packing is injective -/
theorem pack_injective (a b : Bytes) (n : Nat) (ha : encodeBytes a = .ok n) (hb : encodeBytes b = .ok n) :
    a = b :=
  Outcome.ok.inj ((unpack_pack ha).symm.trans (unpack_pack hb))

/-! ### byte codec -/

theorem bytes_roundtrip_number (v : Int) (h : I64 v) :
    ClaimData.fromBytes true .number (ClaimData.number v).toBytes = .ok (.number v) := by
  have hlt : asU64 v < 256 ^ 8 := asU64_lt v
  simp [ClaimData.toBytes, ClaimData.fromBytes, toBE_length, beVal_toBE 8 _ hlt, asI64_asU64 v h]

theorem bytes_roundtrip_scalar (s : Nat) (h : s < rOrder) :
    ClaimData.fromBytes true .scalar (ClaimData.scalar s).toBytes = .ok (.scalar s) := by
  have hlt : s < 256 ^ 32 := Nat.lt_trans h (by decide)
  simp [ClaimData.toBytes, ClaimData.fromBytes, toBE_length, beVal_toBE 32 _ hlt, h]

theorem bytes_roundtrip_hashed (v : Bytes) :
    ClaimData.fromBytes true .hashed (ClaimData.hashed v false).toBytes = .ok (.hashed v false) := rfl

theorem bytes_roundtrip_revocation16 (id : Bytes) (hl : id.length = 16) (hu : utf8Valid id = true) :
    ClaimData.fromBytes true .revocation (ClaimData.revocation id).toBytes = .ok (.revocation id) := by
  simp [ClaimData.toBytes, ClaimData.fromBytes, hl, hu]

/-- recorded gaps of the byte codec (known findings F18): the flag is lost, enumerations and
revocation identifiers of other lengths do not decode -/
theorem bytes_roundtrip_loses_print_friendly (v : Bytes) :
    ClaimData.fromBytes true .hashed (ClaimData.hashed v true).toBytes = .ok (.hashed v false) := rfl

theorem bytes_roundtrip_enumeration_fails (e : EnumClaim) :
    ClaimData.fromBytes true .enumeration (ClaimData.enumeration e).toBytes = .err := rfl

theorem bytes_roundtrip_revocation_other_length (id : Bytes) (hl : id.length ≠ 16) :
    ClaimData.fromBytes true .revocation (ClaimData.revocation id).toBytes = .err := by
  simp [ClaimData.toBytes, ClaimData.fromBytes, hl]

/-! ### collision freedom of the hash-encoded claims (modulo a hash collision, which is exhibited) -/

/-- pre-hash encoding of enumerations is injective for sizes below 2^16 -/
theorem enum_prehash_injective (a b : EnumClaim) (hta : a.total < 65536) (htb : b.total < 65536)
    (h : (ClaimData.enumeration a).preHash = (ClaimData.enumeration b).preHash) : a = b := by
  obtain ⟨da, va, ta⟩ := a
  obtain ⟨db, vb, tb⟩ := b
  simp only [ClaimData.preHash, Option.some.injEq, List.append_assoc] at h
  -- what follows `dst` has the fixed length 4, so the two `dst` end at the same place
  obtain ⟨rfl, hs⟩ := List.append_inj' h (by simp [toLE_length])
  obtain ⟨_, hs⟩ := List.append_inj hs rfl
  obtain ⟨ht, hv⟩ := List.append_inj hs (by rw [toLE_length, toLE_length])
  obtain rfl : ta = tb := toLE_injective 2 (by omega) (by omega) ht
  obtain rfl : va = vb := List.head_eq_of_cons_eq hv
  rfl

/-- equal hashes come from equal inputs or exhibit a collision -/
theorem eq_or_collision (h : Bytes → Nat) {x y : Bytes} (he : h x = h y) :
    x = y ∨ ∃ x y : Bytes, x ≠ y ∧ h x = h y :=
  if hxy : x = y then .inl hxy else .inr ⟨x, y, hxy, he⟩

/-- two claims of the same type with the same field element carry the same value, or the two
different hash inputs are a collision of the hash-to-scalar map -/
theorem enc_injective_mod_hash (h : Bytes → Nat) (a b : ClaimData) (hty : a.type = b.type)
    (hwa : match a with
      | .number v => I64 v
      | .enumeration e => e.dst.length < 256 ∧ e.total < 65536
      | _ => True)
    (hwb : match b with
      | .number v => I64 v
      | .enumeration e => e.dst.length < 256 ∧ e.total < 65536
      | _ => True)
    (he : a.toScalar h = b.toScalar h) :
    (match a, b with
      | .hashed x _, .hashed y _ => x = y
      | a, b => a = b) ∨ ∃ x y : Bytes, x ≠ y ∧ h x = h y := by
  -- the types agree, so only the five same-constructor pairs remain
  cases a <;> cases b <;> cases hty
  case hashed.hashed x _ y _ => exact eq_or_collision h he
  case number.number x y => exact .inl (congrArg _ (number_injective x y hwa hwb he))
  case scalar.scalar x y => exact .inl (congrArg _ he)
  case revocation.revocation x y =>
    exact (eq_or_collision h he).imp_left fun e => congrArg _ (List.append_cancel_left e)
  case enumeration.enumeration x y =>
    exact (eq_or_collision h he).imp_left fun e =>
      congrArg _ (enum_prehash_injective x y hwa.2 hwb.2 (congrArg some e))

/-- known finding: the enumeration size is truncated to 16 bits before hashing, so two different
enumeration claims share one encoding whatever the hash function is -/
theorem enum_total_truncated (h : Bytes → Nat) :
    (ClaimData.enumeration ⟨[112], 0, 3⟩).toScalar h = (ClaimData.enumeration ⟨[112], 0, 65539⟩).toScalar h
    ∧ (⟨[112], 0, 3⟩ : EnumClaim) ≠ ⟨[112], 0, 65539⟩ := by
  constructor
  · rfl
  · decide

/-- non-vacuity: concrete values meet the hypotheses used above -/
example : I64 (-5) ∧ I64 0 ∧ I64 9223372036854775807 ∧ I64 (-9223372036854775808) := by
  unfold I64 two63; decide
example : encodeBytes [104, 105] = .ok (2 * 256 ^ 31 + 104 * 256 + 105) := by decide

end AC.C18
