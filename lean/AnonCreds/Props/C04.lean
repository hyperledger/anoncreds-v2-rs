import AnonCreds.Proofs.PrefixInj
/-
C04 — context binding. The list of transcript items absorbed before any proof material is a prefix
code for (nonce, schema id, statements in order with every modelled field): transcripts that begin
with the public items of two different contexts differ, whatever proof material follows
(`publicItems_prefixInj`), so a presentation accepted under two different contexts needs a
collision of the Fiat–Shamir hash on two *different* item lists (merlin frames label and length of
each item; its collision resistance is trusted). The model's item list is compared byte for byte
with the items the real verifier appends (read from the logging copy of merlin), for every generated and every mutated schema.
-/
namespace AC.C04
open AC AC.Transcript

theorem str_injective {s t : String} (h : str s = str t) : s = t :=
  String.toByteArray_inj.mp (ByteArray.ext (Array.toList_inj.mp h))

theorem uint_inj {n m : Nat} : uint n = uint m ↔ n = m :=
  ⟨uvarint_injective, congrArg uint⟩

/-- bounds of range statements are `isize`; any window of width 2^128 would do -/
def I128 (v : Int) : Prop := -(2 ^ 127 : Int) ≤ v ∧ v < (2 ^ 127 : Int)

theorem uintI_inj {a b : Int} (ha : I128 a) (hb : I128 b) (h : uintI a = uintI b) : a = b := by
  have := uvarint_injective h
  unfold I128 at ha hb
  omega

/-- well-formed statement: range bounds are machine integers -/
def StmtWF : StmtT → Prop
  | .range _ _ _ _ lo hi => (∀ l, lo = some l → I128 l) ∧ (∀ u, hi = some u → I128 u)
  | _ => True

/-! ### per-element encoders -/

theorem blind_prefixInj : PrefixInj (fun b : Bytes => [(⟨"blind claim", b⟩ : Item)]) := by
  intro a a' r r' h
  simpa only [List.cons_append, List.nil_append, List.cons.injEq, Item.mk.injEq, true_and] using h

theorem claimIndex_prefixInj : PrefixInj (fun (p : Nat × Bytes) =>
    [(⟨"claim indices label length", uint p.2.length⟩ : Item), ⟨"claim indices label", p.2⟩,
     ⟨"claim indices index", uint p.1⟩]) := by
  intro ⟨i, l⟩ ⟨i', l'⟩ r r' h
  simp only [List.cons_append, List.nil_append, List.cons.injEq, Item.mk.injEq, true_and, uint_inj] at h
  obtain ⟨_, rfl, rfl, hr⟩ := h
  exact ⟨rfl, hr⟩

theorem disclosed_prefixInj : PrefixInj (fun (p : Nat × Bytes) =>
    [(⟨"disclosed message label index", uint p.1⟩ : Item), ⟨"disclosed message label", p.2⟩]) := by
  intro ⟨i, l⟩ ⟨i', l'⟩ r r' h
  simp only [List.cons_append, List.nil_append, List.cons.injEq, Item.mk.injEq, true_and, uint_inj] at h
  obtain ⟨rfl, rfl, hr⟩ := h
  exact ⟨rfl, hr⟩

theorem ref_prefixInj : PrefixInj (fun (p : Bytes × Nat) =>
    [(⟨"reference statement id", p.1⟩ : Item), ⟨"reference statement claim index", uint p.2⟩]) := by
  intro ⟨i, l⟩ ⟨i', l'⟩ r r' h
  simp only [List.cons_append, List.nil_append, List.cons.injEq, Item.mk.injEq, true_and, uint_inj] at h
  obtain ⟨rfl, rfl, hr⟩ := h
  exact ⟨rfl, hr⟩

/-! ### credential schema, issuer -/

theorem credSchema_prefixInj : PrefixInj credSchemaItems := by
  intro ⟨id, lb, ds, bc, ci, nc⟩ ⟨id', lb', ds', bc', ci', nc'⟩ r r' h
  simp only [credSchemaItems, List.cons_append, List.nil_append, List.append_assoc,
    List.cons.injEq, Item.mk.injEq, true_and, uint_inj] at h
  obtain ⟨_, rfl, _, rfl, _, rfl, hbl, hb⟩ := h
  obtain ⟨rfl, hc⟩ := blind_prefixInj.flatMap_sameLen bc bc' _ _ hbl hb
  simp only [List.cons.injEq, Item.mk.injEq, true_and, uint_inj] at hc
  obtain ⟨rfl, hn⟩ := claimIndex_prefixInj.flatMap_indexed ci ci' _ _ hc.1 hc.2
  simp only [List.cons.injEq, Item.mk.injEq, true_and, uint_inj] at hn
  obtain ⟨rfl, hr⟩ := hn
  exact ⟨rfl, hr⟩

theorem issuer_prefixInj : PrefixInj issuerItems := by
  intro ⟨id, vk, rk, rg, ek, sc⟩ ⟨id', vk', rk', rg', ek', sc'⟩ r r' h
  simp only [issuerItems, List.cons_append, List.nil_append, List.cons.injEq, Item.mk.injEq,
    true_and] at h
  obtain ⟨rfl, rfl, rfl, rfl, rfl, hs⟩ := h
  obtain ⟨rfl, hr⟩ := credSchema_prefixInj _ _ _ _ hs
  exact ⟨rfl, hr⟩

/-! ### statements -/

/-- the optional bound of a range statement, with its version flag -/
def boundItems (flag val : String) : Option Int → List Item
  | none => [⟨flag, [0]⟩]
  | some l => [⟨flag, [1]⟩, ⟨val, uintI l⟩]

theorem stmtItems_range (i r s : Bytes) (c : Nat) (l u : Option Int) :
    stmtItems (.range i r s c l u) =
      [⟨"statement type", str "range proof"⟩, ⟨"statement id", i⟩,
       ⟨"reference commitment statement id", r⟩, ⟨"reference signature statement id", s⟩,
       ⟨"claim index", uint c⟩]
      ++ (boundItems "lower version" "lower" l ++ boundItems "upper version" "upper" u) :=
  rfl

theorem bound_prefixInj (flag val : String) :
    PrefixInjOn (fun a => ∀ l, a = some l → I128 l) (boundItems flag val) := by
  intro a a' r r' ha ha' h
  cases a <;> cases a' <;>
    simp only [boundItems, List.cons_append, List.nil_append, List.cons.injEq, Item.mk.injEq,
      true_and] at h
  · exact ⟨rfl, h⟩
  · exact absurd h.1 (by decide)
  · exact absurd h.1 (by decide)
  · exact ⟨by rw [uintI_inj (ha _ rfl) (ha' _ rfl) h.1], h.2⟩

/-- the statement kind, as hashed in the leading "statement type" item -/
def tag : StmtT → String
  | .signature .. => "ps signature"
  | .revocation .. => "vb20 set membership revocation"
  | .membership .. => "vb20 set membership"
  | .equality .. => "equality"
  | .commitment .. => "commitment"
  | .range .. => "range proof"
  | .verenc .. => "el-gamal verifiable encryption"
  | .ved .. => "el-gamal verifiable encryption w/decryption"

theorem head?_stmtItems_append (s : StmtT) (r : List Item) :
    (stmtItems s ++ r).head? = some ⟨"statement type", str (tag s)⟩ := by
  cases s <;> rfl

theorem allow_inj {a a' : Bool} :
    u64le (if a then 1 else 0) = u64le (if a' then 1 else 0) ↔ a = a' := by
  revert a a'; decide

theorem stmt_prefixInj : PrefixInjOn StmtWF stmtItems := by
  intro s s' r r' hw hw' h
  have ht : tag s = tag s' := by
    have := congrArg List.head? h
    rw [head?_stmtItems_append, head?_stmtItems_append, Option.some.injEq, Item.mk.injEq] at this
    exact str_injective this.2
  -- different kinds have different tags, so only the eight same-kind pairs remain
  cases s <;> cases s' <;> simp only [tag, String.reduceEq] at ht
  case signature.signature =>
    simp only [stmtItems, List.cons_append, List.nil_append, List.append_assoc, List.cons.injEq,
      Item.mk.injEq, true_and, uint_inj] at h
    obtain ⟨rfl, hl, hd⟩ := h
    obtain ⟨rfl, hi⟩ := disclosed_prefixInj.flatMap_indexed _ _ _ _ hl hd
    obtain ⟨rfl, hr⟩ := issuer_prefixInj _ _ _ _ hi
    exact ⟨rfl, hr⟩
  case equality.equality =>
    simp only [stmtItems, List.cons_append, List.nil_append, List.cons.injEq, Item.mk.injEq,
      true_and, uint_inj] at h
    obtain ⟨rfl, hl, hf⟩ := h
    obtain ⟨rfl, hr⟩ := ref_prefixInj.flatMap_sameLen _ _ _ _ hl hf
    exact ⟨rfl, hr⟩
  case range.range =>
    rw [stmtItems_range, stmtItems_range] at h
    simp only [List.cons_append, List.nil_append, List.append_assoc, List.cons.injEq, Item.mk.injEq,
      true_and, uint_inj] at h
    obtain ⟨rfl, rfl, rfl, rfl, hlo⟩ := h
    obtain ⟨rfl, hhi⟩ := bound_prefixInj _ _ _ _ _ _ hw.1 hw'.1 hlo
    obtain ⟨rfl, hr⟩ := bound_prefixInj _ _ _ _ _ _ hw.2 hw'.2 hhi
    exact ⟨rfl, hr⟩
  case verenc.verenc =>
    simp only [stmtItems, List.cons_append, List.nil_append, List.cons.injEq, Item.mk.injEq,
      true_and, uint_inj, allow_inj] at h
    obtain ⟨rfl, rfl, rfl, rfl, rfl, rfl, hr⟩ := h
    exact ⟨rfl, hr⟩
  case revocation.revocation | membership.membership | commitment.commitment | ved.ved =>
    simp only [stmtItems, List.cons_append, List.nil_append, List.cons.injEq, Item.mk.injEq,
      true_and, uint_inj] at h
    obtain ⟨rfl, rfl, rfl, rfl, rfl, hr⟩ := h
    exact ⟨rfl, hr⟩

/-- all statements of a schema well formed -/
def SchemaWF (stmts : List (Bytes × StmtT)) : Prop := ∀ p ∈ stmts, StmtWF p.2

theorem keyed_prefixInj : PrefixInjOn (fun p : Bytes × StmtT => StmtWF p.2)
    (fun (k, s) => (⟨"presentation statement id", k⟩ : Item) :: stmtItems s) := by
  intro ⟨k, s⟩ ⟨k', s'⟩ r r' hw hw' h
  simp only [List.cons_append, List.cons.injEq, Item.mk.injEq, true_and] at h
  obtain ⟨rfl, hs⟩ := h
  obtain ⟨rfl, hr⟩ := stmt_prefixInj s s' r r' hw hw' hs
  exact ⟨rfl, hr⟩

/-- The public part is a prefix code for the whole context, generators included: this is the form
that speaks about complete transcripts, where the proof material follows as further items. -/
theorem publicItems_prefixInj {g1 g2 g1' g2' nonce nonce' sid sid' : Bytes}
    {stmts stmts' : List (Bytes × StmtT)} {r r' : List Item} (hw : SchemaWF stmts) (hw' : SchemaWF stmts')
    (h : publicItems g1 g2 nonce sid stmts ++ r = publicItems g1' g2' nonce' sid' stmts' ++ r') :
    g1 = g1' ∧ g2 = g2' ∧ nonce = nonce' ∧ sid = sid' ∧ stmts = stmts' ∧ r = r' := by
  simp only [publicItems, curveItems, schemaItems, List.cons_append, List.nil_append,
    List.cons.injEq, Item.mk.injEq, true_and, uint_inj] at h
  obtain ⟨h1, h2, hn, hs, hl, hf⟩ := h
  exact ⟨h1, h2, hn, hs, keyed_prefixInj.flatMap_sameLen stmts stmts' r r' hw hw' hl hf⟩

/-- **Context binding.** Equal public transcripts ⇒ equal nonce, schema id and statements (every
field of every statement, their map keys and their order). -/
theorem publicItems_injective (g1 g2 nonce nonce' sid sid' : Bytes) (stmts stmts' : List (Bytes × StmtT))
    (hw : SchemaWF stmts) (hw' : SchemaWF stmts')
    (h : publicItems g1 g2 nonce sid stmts = publicItems g1 g2 nonce' sid' stmts') :
    nonce = nonce' ∧ sid = sid' ∧ stmts = stmts' := by
  obtain ⟨_, _, hn, hs, hst, _⟩ := publicItems_prefixInj hw hw' (congrArg (· ++ []) h)
  exact ⟨hn, hs, hst⟩

/-- consequently: a presentation object accepted under two contexts was accepted on two different
hashed prefixes unless the contexts coincide — every parameter in the property's list is a field of
`StmtT` / `IssuerT` / `CredSchemaT`, the nonce or the schema id -/
theorem context_binding (g1 g2 nonce nonce' sid sid' : Bytes) (stmts stmts' : List (Bytes × StmtT))
    (hw : SchemaWF stmts) (hw' : SchemaWF stmts')
    (hne : (nonce, sid, stmts) ≠ (nonce', sid', stmts')) :
    publicItems g1 g2 nonce sid stmts ≠ publicItems g1 g2 nonce' sid' stmts' := by
  intro h
  obtain ⟨h1, h2, h3⟩ := publicItems_injective g1 g2 nonce nonce' sid sid' stmts stmts' hw hw' h
  exact hne (by rw [h1, h2, h3])

/-- non-vacuity: a schema with a range statement is well formed -/
example : SchemaWF [([1], .range [1] [2] [3] 2 (some (-5)) none)] :=
  List.forall_mem_singleton.mpr
    ⟨fun l hl => by cases hl; exact ⟨by decide, by decide⟩, fun u hu => by cases hu⟩

end AC.C04
