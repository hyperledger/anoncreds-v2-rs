import AnonCreds.Proofs.Sigma
import AnonCreds.Proofs.Verify
import AnonCreds.Proofs.CreatePlan
import AnonCreds.Props.C02
/-
C03 — completeness of honest presentations.
(1) The algebra every acceptance rests on: for each sub-protocol the verifier's recomputation from the honest
prover's responses equals the value the honest prover hashed (so both sides derive the same challenge), for all
witnesses, randomness and challenges. That both sides append the same items in the same order is tied to the
code by the honest-run correspondence of the harness, not by a theorem.
(2) The structural composition: the proofs map `create` emits (model `Create.createProofs`, compared with the real
`create` by `cr.proofs`) passes the whole plan stage of `verify` (model `Verify.planStage`, compared with the real
`verify` by `vf.plan`), and both sides append the statement-id markers in the same order (`tr.markers`).
-/
namespace AC.C03
open AC.Sigma
variable {F G : Type} [Field F] [AddCommGroup G] [Module F G]

/-! BBS / PS proofs of knowledge for every partition: `C17.bbs_pok_complete`, `C17.ps_pok_complete`. -/

/-- commitment statement (`presentation/commitment.rs` vs `verifier/commitment.rs`): commitment
`C = m•M + b•B`, hashed `n•M + r•B`, responses `p_m = n + c m` (from the signature proof) and
`p_b = r + c b` -/
theorem commitment_complete (M B : G) (m b n r c : F) :
    commitmentRecommit M B (m • M + b • B) c (n + c * m) (r + c * b) = n • M + r • B := by
  unfold commitmentRecommit; module

/-- ElGamal statement (`presentation/verifiable_encryption.rs` vs `verifier/…`): `c1 = b•g`,
`c2 = m•M + b•K`, hashed `(r•g, n•M + r•K)` -/
theorem elgamal_complete (g M K : G) (m b n r c : F) :
    elgamalRecommit g M K (b • g) (m • M + b • K) c (n + c * m) (r + c * b)
      = (r • g, n • M + r • K) := by
  -- the second component is a commitment to `m` with bases `M`, `K`
  refine Prod.ext ?_ (commitment_complete M K m b n r c)
  simp only [elgamalRecommit]
  module

/-- per-byte proofs of the decryptable variants have the same shape with `m` the byte value -/
theorem byte_proof_complete (g M K : G) (byte bi nb bb c : F) :
    elgamalRecommit g M K (bi • g) (byte • M + bi • K) c (nb + c * byte) (bb + c * bi)
      = (bb • g, nb • M + bb • K) :=
  elgamal_complete g M K byte bi nb bb c

/-- byte-sum check: if the per-byte randomness sums (with weights 256^(31-i)) to the ciphertext's
randomness and the bytes to the message, the weighted sum of byte ciphertexts is `c2`. Stated for
any weights `ws`. -/
theorem byte_sum_complete (M K : G) (ws bytes bs : List F)
    (hl : ws.length = bytes.length) (hl' : ws.length = bs.length) :
    msm ((List.zipWith (fun by_ b => by_ • M + b • K) bytes bs)) ws
      = (List.zipWith (· * ·) ws bytes).sum • M + (List.zipWith (· * ·) ws bs).sum • K := by
  induction ws generalizing bytes bs with
  | nil => simp
  | cons w ws ih =>
    rcases bytes with _ | ⟨y, ys⟩
    · cases hl
    rcases bs with _ | ⟨b, bs⟩
    · cases hl'
    simp only [List.zipWith_cons_cons, msm_cons, List.sum_cons]
    rw [ih ys bs (Nat.succ.inj hl) (Nat.succ.inj hl'), smul_add, smul_smul, smul_smul, add_smul, add_smul,
      add_add_add_comm]

/-- equality statements: one shared nonce and equal signed scalars give equal responses -/
theorem equality_complete (n c m m' : F) (h : m = m') : n + c * m = n + c * m' := by rw [h]

example : commitmentRecommit (1:F) (2:F) ((3:F) • (1:F) + (4:F) • (2:F)) (5:F) (6 + 5 * 3) (7 + 5 * 4)
    = (6:F) • (1:F) + (7:F) • (2:F) :=
  commitment_complete (1:F) (2:F) (3:F) (4:F) (6:F) (7:F) (5:F)

/-! ### composition at the plan level: what `create` emits, `verify` pairs and resolves -/

open AC.Verify AC.Create AC.CreatePlan in
/-- For every honest (credentials, schema) pair (`Honest`) for which `Presentation::create` returns a presentation,
that presentation's proofs map passes everything `Presentation::verify` decides before the challenge comparison
(spelled out by `planStage_eq_none`). The disclosed-claims check of the signature statements is assumed here
(`hdisc`) and discharged in `honest_presentation_passes_plan`. Holds for any number of statements and credentials,
in any listing order. -/
theorem create_passes_verify_plan {F : Type} [DecidableEq F] (enc : ClaimData → F)
    (types : String → List ClaimType) (inner : String → Inner F)
    (reported : List (String × List (String × ClaimData)))
    (creds : List (String × CredI)) (stmts : List CStmt) (ps : List ProofI)
    (hon : Honest creds stmts)
    (hdisc : ∀ id d l n, CStmt.sig id d l n ∈ stmts →
      ∃ rep, reported.lookup id = some rep ∧ checkDisclosed enc ⟨id, d, l, types id⟩ (inner id) rep = true)
    (hcreate : createProofs creds stmts = some ps) :
    planStage enc (stmts.map (toV types)) (toPres inner reported ps) = none := by
  obtain ⟨ms, hok, hms, rfl⟩ := createProofs_eq_some hcreate
  obtain ⟨_, bs, hms', hpo, hranges⟩ := createOk_spec hok
  cases hms.symm.trans hms'
  have look := lookup_proof inner creds ms stmts hon.ids
  refine planStage_eq_none.2 ⟨?_, fun s hs => ?_, fun q hq => ?_⟩
  · intro e he
    obtain ⟨y, _, rfl⟩ := List.mem_map.1 he
    rfl
  · obtain ⟨st, hst, hv⟩ := List.mem_map.1 hs
    -- only a signature statement reads as `.sig s`; for the others `hv` is `False`
    cases st <;> simp only [toV, Stmt.sig.injEq, reduceCtorEq] at hv
    next id d lb n =>
    subst hv
    obtain ⟨cs, hcs⟩ := hon.sigCred id d lb n hst
    obtain ⟨v, hv⟩ := exists_lookup_of_mem ((mem_messagesOf hms).2 ⟨d, lb, n, cs, hst, hcs, rfl⟩)
    obtain ⟨rep, hrep, hck⟩ := hdisc id d lb n hst
    exact planSig_eq_none.2 ⟨_, rep, look _ hst _ (proofOf_sig hcs hv), rfl, hrep, hck⟩
  · obtain ⟨st, hst, hv⟩ := List.mem_map.1 hq
    rw [planPred_eq_none]
    cases st <;> simp only [toV, Stmt.pred.injEq, reduceCtorEq] at hv <;> subst hv
    case equality id refs => exact ⟨_, look _ hst ⟨id, .equality, 0, []⟩ rfl, rfl, .inl rfl⟩
    case simple k id ref c =>
      -- the referenced claim is hidden, so `ref` is a signature statement with a signature proof (no `continue`)
      obtain ⟨d, lb, n, cs, v, hsst, hcs, hv, hlr⟩ := sig_proof_of_hidden inner creds ms stmts hon.ids hms ref c
        ((predsOk_spec hpo).1 k id ref c (List.mem_filter.2 ⟨hst, rfl⟩))
      -- the proof under `ref`, its kind, the signature statement it names, its hidden indices
      have hres : resolveRef (stmts.map (toV types)) (toPres inner reported _ : Pres F) ref c = true :=
        resolveRef_iff.2
          ⟨_, hlr, rfl, ⟨_, find_stmt types hon.ids hsst⟩, _, rfl, by simpa using hidden_contains v c hv⟩
      -- the statement's own builder: a revocation / membership statement needs its credential
      have hx : proofOf creds ms (.simple k id ref c) = some ⟨id, k, 0, []⟩ :=
        proofOf_simple (fun _ => ⟨cs, sigClaims_lookup hcs⟩) fun hk => hon.memCred id ref c (hk ▸ hst)
      have hk : k ≠ .signature ∧ k ≠ .range := by
        rcases hon.kinds k id ref c hst with rfl | rfl | rfl | rfl | rfl <;> exact ⟨nofun, nofun⟩
      exact ⟨_, look _ hst _ hx, rfl, .inr ⟨hk.1, (if_neg hk.2).mpr hres⟩⟩
    case range id ref sid c lo hi =>
      obtain ⟨cs, hcs⟩ := hon.rangeCred id ref sid c lo hi hst
      have hcred := sigClaims_lookup hcs
      -- the range pass found a commitment builder under `ref`
      have hr := List.all_eq_true.1 hranges _ (List.mem_filter.2 ⟨hst, rfl⟩)
      simp only [hcred] at hr
      -- (no entry, or an entry that is not a commitment builder: `hr` is `False`)
      rcases hb : bs.lookup ref with _ | _ | ⟨cref, cclaim⟩ <;> simp only [hb, Bool.false_eq_true] at hr
      have hcst : CStmt.simple .commitment ref cref cclaim ∈ stmts :=
        (List.mem_filter.1 ((predsOk_spec hpo).2 ref cref cclaim (mem_of_lookup hb))).1
      exact ⟨_, look _ hst _ (proofOf_range hcred), rfl, .inr
        ⟨nofun, _, _, find_stmt types hon.ids hcst, rfl, look _ hcst ⟨ref, .commitment, 0, []⟩ rfl, rfl⟩⟩

open AC.Verify AC.Create AC.CreatePlan in
/-- … hence the decision logic of `verify` accepts it as soon as the recomputed challenge matches and
every post-challenge verifier passes (the per-protocol completeness theorems above and in C17 / C08 / C06):
no honest presentation is lost to the pairing of statements and proofs. -/
theorem honest_verify_ok {F : Type} [DecidableEq F] (enc : ClaimData → F)
    (types : String → List ClaimType) (inner : String → Inner F)
    (reported : List (String × List (String × ClaimData)))
    (creds : List (String × CredI)) (stmts : List CStmt) (ps : List ProofI)
    (hon : Honest creds stmts)
    (hdisc : ∀ id d l n, CStmt.sig id d l n ∈ stmts →
      ∃ rep, reported.lookup id = some rep ∧ checkDisclosed enc ⟨id, d, l, types id⟩ (inner id) rep = true)
    (hcreate : createProofs creds stmts = some ps)
    (ck : Checks) (hch : ck.challengeOk = true) (hst : ∀ id, ck.stmtOk id = true) :
    verify enc (stmts.map (toV types)) (toPres inner reported ps) ck = .ok :=
  verify_eq_ok.2
    ⟨create_passes_verify_plan enc types inner reported creds stmts ps hon hdisc hcreate, hch, fun _ _ => hst _⟩

open AC.Verify AC.Create AC.CreatePlan in
/-- **Same transcript order.** For every honest (credentials, schema) pair the statement-id markers
(`append_message(b"", id)`: commitment, verifiable-encryption, encrypt-and-decrypt, then range statements)
enter the prover's and the verifier's main transcript in the same order, whatever the listing order of the
schema — a necessary condition for both sides to derive the same challenge. Tie: `tr.markers` (both model
lists vs the markers in the merlin logs of the real `create` and `verify`). -/
theorem create_verify_same_marker_order (types : String → List ClaimType) (creds : List (String × CredI))
    (stmts : List CStmt) (hon : Honest creds stmts) :
    createMarkers creds stmts = verifyMarkers (stmts.map (toV types)) := by
  -- all four lists are `filterMap`s of the schema: compare them statement by statement
  simp only [createMarkers, verifyMarkers, List.filterMap_map, List.filter_filterMap, List.map_filterMap]
  congr 1 <;> refine List.filterMap_congr fun st hst => ?_
  · cases st with
    | sig | equality | range => rfl
    | simple k id ref c =>
      -- whether or not the loop `continue`s, a revocation / membership statement leaves no marker
      cases k with
      | revocation | membership => simp only [predProofOf]; split <;> rfl
      | _ => rfl
  · cases st with
    | sig | equality => rfl
    | simple k id ref c => rcases hon.kinds k id ref c hst with rfl | rfl | rfl | rfl | rfl <;> rfl
    | range id ref sid c lo hi =>
      obtain ⟨cs, hcs⟩ := hon.rangeCred id ref sid c lo hi hst
      simp [rangeProofOf, sigClaims_lookup hcs, toV, predOf]

example : AC.Create.createMarkers [("s", .sig [⟨11, none⟩, ⟨12, some 5⟩])]
    [.range "r" "c" "s" 1 (some 0) (some 10), .simple .verenc "v" "s" 0, .simple .commitment "c" "s" 1, .sig "s" [] ["a", "b"] 2]
    = ["v", "c", "r"] := by decide

/-- `create` keeps the `IndexMap` order "range proofs, signature proofs, other predicates" whatever the
listing order of the schema (here: range statement listed first) -/
example : AC.Create.createProofs
    [("s", .sig [⟨11, none⟩, ⟨12, some 5⟩])]
    [.range "r" "c" "s" 1 (some 0) (some 10), .simple .commitment "c" "s" 1, .sig "s" ["a"] ["a", "b"] 2]
    = some [⟨"r", .range, 0, []⟩, ⟨"s", .signature, 2, [0]⟩, ⟨"c", .commitment, 0, []⟩] := by decide

/-- the hypotheses of `create_passes_verify_plan` are satisfiable: that scenario is `Honest` -/
example : AC.CreatePlan.Honest
    [("s", .sig [⟨11, none⟩, ⟨12, some 5⟩])]
    [.range "r" "c" "s" 1 (some 0) (some 10), .simple .commitment "c" "s" 1, .sig "s" ["a"] ["a", "b"] 2] where
  ids := by decide
  kinds := by intro k id ref c h; simp at h; obtain ⟨rfl, -⟩ := h; simp
  sigCred := by intro id d l n h; simp at h; obtain ⟨rfl, -⟩ := h; exact ⟨_, rfl⟩
  memCred := by intro id ref c h; simp at h
  rangeCred := by intro id ref sid c lo hi h; simp at h; obtain ⟨-, -, rfl, -⟩ := h; exact ⟨_, rfl⟩

/-! ### … with the disclosed-claims check discharged (C02 `honest_report_passes_check`) -/

section discharged
open AC.Verify AC.Create AC.CreatePlan AC.C02

/-- the map the honest prover reports for a credential with a claim per label -/
def honestRep (disclosed labels : List String) (claims : List ClaimData) : List (String × ClaimData) :=
  (revealedIdx (fullVector disclosed labels)).filterMap fun i => match labels[i]?, claims[i]? with
    | some l, some c => some (l, c)
    | _, _ => none

/-- the index → scalar map of the honest signature proof -/
def honestInner {F : Type} (enc : ClaimData → F) (disclosed labels : List String) (claims : List ClaimData) : Inner F :=
  (revealedIdx (fullVector disclosed labels)).filterMap fun i => (claims[i]?).map fun c => (i, enc c)

/-- **Plan-level completeness, unconditionally.** An honest (credentials, schema) pair in which every
signature statement's issuer schema has distinct labels and its credential carries one well-typed claim per
label, with the presentation reporting what the honest prover reports: whatever `create` emits passes the
whole plan stage of `verify`, the disclosed-claims check included. -/
theorem honest_presentation_passes_plan {F : Type} [DecidableEq F] (enc : ClaimData → F)
    (types : String → List ClaimType) (inner : String → Inner F)
    (reported : List (String × List (String × ClaimData)))
    (creds : List (String × CredI)) (stmts : List CStmt) (ps : List ProofI)
    (hon : Honest creds stmts)
    (hcred : ∀ id d l n, CStmt.sig id d l n ∈ stmts →
      l.Nodup ∧ d.Nodup ∧ ∃ claims : List ClaimData,
        claims.length = l.length ∧ (types id).length = l.length ∧
        (∀ (i : Nat) (c : ClaimData) (t : ClaimType), claims[i]? = some c → (types id)[i]? = some t → c.type = t) ∧
        reported.lookup id = some (honestRep d l claims) ∧ inner id = honestInner enc d l claims)
    (hcreate : createProofs creds stmts = some ps) :
    planStage enc (stmts.map (toV types)) (toPres inner reported ps) = none := by
  apply create_passes_verify_plan enc types inner reported creds stmts ps hon _ hcreate
  intro id d l n hst
  obtain ⟨hl, hd, claims, hn, ht, hty, hrep, hin⟩ := hcred id d l n hst
  refine ⟨_, hrep, ?_⟩
  rw [hin]
  exact honest_report_passes_check enc id d l (types id) claims hl hd hn ht hty

end discharged

end AC.C03
