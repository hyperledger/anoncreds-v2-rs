import Mathlib.Tactic.Module
import Mathlib.Tactic.FieldSimp
/-
C12 — unlinkability of presentations from the same credential. The only signature-derived values
a presentation transmits are the randomised elements; in a group of prime order (one-dimensional:
every non-zero element generates) their distribution does not depend on the signature they were
derived from: a bijection of the holder's randomness maps the elements derived from one valid
signature to those derived from any other valid signature under the same key. The rest of the
presentation is a witness-indistinguishable Σ-protocol (C07) over those elements.
-/
namespace AC.C12
variable {F G : Type} [Field F] [AddCommGroup G] [Module F G]

/-- BBS: `a_bar = r•A`. For signatures `A`, `A' = a•A` (`a ≠ 0`) the randomiser `r' = r/a` gives the same
element; `b_bar = x•a_bar` is determined by it (valid signatures). `r ↦ r/a` is a bijection of F∖{0}. -/
theorem bbs_randomisation (A : G) (a r : F) (ha : a ≠ 0) :
    r • A = (r / a) • (a • A) ∧ (r ≠ 0 → r / a ≠ 0) := by
  constructor
  · rw [smul_smul, div_mul_cancel₀ _ ha]
  · intro hr; exact div_ne_zero hr ha

/-- PS: `(σ₁', σ₂') = (r•σ₁, r•(σ₂ + t•σ₁))` with `σ₂ = k•σ₁`. For another valid signature
`(τ₁, τ₂) = (a•σ₁, k'•τ₁)` the randomness `(r/a, t + k - k')` yields the same pair; the map is a bijection
of (F∖{0}) × F. -/
theorem ps_randomisation (σ1 : G) (a k k' r t : F) (ha : a ≠ 0) :
    let τ1 := a • σ1
    r • σ1 = (r / a) • τ1 ∧
    r • (k • σ1 + t • σ1) = (r / a) • (k' • τ1 + (t + k - k') • τ1) := by
  intro τ1
  have h1 : r • σ1 = (r / a) • τ1 := (bbs_randomisation σ1 a r ha).1
  refine ⟨h1, ?_⟩
  -- both sides are multiples of `r • σ1 = (r / a) • τ1`
  rw [← add_smul, ← add_smul, smul_comm (r / a), ← h1, smul_comm r]
  congr 1
  ring

/-- accumulator proof: the witness enters as `E_C = C + (σ+ρ)•Z`; for two witnesses `C`, `C' = C + δ•Z`
(one-dimensional group, `Z ≠ 0`) shifting `σ` by `-δ` gives the same element -/
theorem vb20_blinding (C Z : G) (δ σ ρ : F) :
    C + (σ + ρ) • Z = (C + δ • Z) + ((σ - δ) + ρ) • Z := by module

/-- sanity: without the randomiser the element is the signature itself — equal across presentations
of one credential and different across credentials, i.e. linkable -/
theorem unrandomised_is_linkable (A A' : G) (h : A ≠ A') : (1 : F) • A ≠ (1 : F) • A' := by
  rwa [one_smul, one_smul]

/-- why the proof's coins must be independent of its secrets (tie: the `c12:pok-coins-related` oracle on
coins recovered from two answers to one commitment): if the BBS randomiser `r` is reused as the Schnorr
nonce of its own inverse (`r_inv = -1/r`, response `s = r + c·r_inv`), the transmitted response and the
challenge put `r` among the roots of a public quadratic — anyone can solve it and unblind
`A = (1/r)•a_bar`, a value that is the same in every presentation of the credential. -/
theorem randomiser_as_nonce_is_solvable (r c : F) (hr : r ≠ 0) :
    let s := r + c * (-(1 / r))
    r * r - s * r - c = 0 := by
  intro s
  simp only [s]
  field_simp
  ring

/-- … and the unblinded element links: two presentations of one credential with randomisers `r`, `r'`
give `(1/r)•(r•A) = (1/r')•(r'•A)` -/
theorem unblinded_elements_coincide (A : G) (r r' : F) (hr : r ≠ 0) (hr' : r' ≠ 0) :
    (1 / r) • (r • A) = (1 / r') • (r' • A) := by
  rw [smul_smul, smul_smul, one_div_mul_cancel hr, one_div_mul_cancel hr']

example : let r : ℚ := 2; let c : ℚ := 6; r * r - (r + c * (-(1 / r))) * r - c = 0 := by norm_num

end AC.C12
