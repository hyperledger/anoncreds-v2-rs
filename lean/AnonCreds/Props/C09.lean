import AnonCreds.Props.C05
/-
C09 — equality statements are accepted only for identical signed values.
The equality verifier collects, for every referenced (statement, claim index), the hidden-message
response (the lookup of C05) and requires them all equal. Soundness: if that holds for two
challenges, the witnesses the signature extractors assign to those messages — the difference
quotients — are equal; with C17 they are the signed values. Completeness: one shared nonce and equal
values give equal responses (C03.equality_complete), and the honest prover assigns one nonce to every
connected group of references (correspondence: chained-equality scenarios of C03).
-/
namespace AC.C09
variable {F : Type} [Field F]

/-- all responses equal to the first one, for both challenges ⇒ all extracted messages equal -/
theorem equality_sound (c c' : F) (ps ps' : List F) (p0 p0' : F)
    (h : ∀ p ∈ ps, p = p0) (h' : ∀ p ∈ ps', p = p0') (k : Nat) (x x' : F)
    (hk : ps[k]? = some x) (hk' : ps'[k]? = some x') :
    (x - x') / (c - c') = (p0 - p0') / (c - c') := by
  rw [h x (List.mem_of_getElem? hk), h' x' (List.mem_of_getElem? hk')]

open AC.Verify (allEqual)

theorem allEqual_cons {α : Type} [DecidableEq α] (p : α) (ps : List α) :
    allEqual (p :: ps) = true ↔ ∀ q ∈ ps, q = p := by
  simp only [allEqual, List.all_eq_true, beq_iff_eq]

/-- a holder with differing signed values cannot satisfy the test for two challenges: if the
extracted messages differ, the responses differ for at least one of the two challenges -/
theorem unequal_values_rejected (c c' p1 p1' p2 p2' : F) (hc : c ≠ c')
    (hne : (p1 - p1') / (c - c') ≠ (p2 - p2') / (c - c')) : p1 ≠ p2 ∨ p1' ≠ p2' :=
  not_and_or.mp fun h => hne (by rw [h.1, h.2])

/-- completeness: a shared nonce and equal values -/
theorem equal_values_accepted [DecidableEq F] (n c m : F) (k : Nat) :
    allEqual (List.replicate (k + 1) (n + c * m)) = true := by
  rw [List.replicate_succ, allEqual_cons]
  exact fun q hq => List.eq_of_mem_replicate hq

/-- the comparison covers **every pair** of collected responses (not only neighbours, and not only disjoint
pairs): whatever the number of references, two positions with different responses make the test fail -/
theorem allEqual_every_pair [DecidableEq F] (l : List F) (h : allEqual l = true) (i j : Nat) (x y : F)
    (hi : l[i]? = some x) (hj : l[j]? = some y) : x = y := by
  cases l with
  | nil => cases hi
  | cons p ps =>
    have hp : ∀ q ∈ p :: ps, q = p := List.forall_mem_cons.mpr ⟨rfl, (allEqual_cons p ps).mp h⟩
    rw [hp x (List.mem_of_getElem? hi), hp y (List.mem_of_getElem? hj)]

theorem allEqual_false_of_differing [DecidableEq F] (l : List F) (i j : Nat) (x y : F)
    (hi : l[i]? = some x) (hj : l[j]? = some y) (hne : x ≠ y) : allEqual l = false :=
  Bool.eq_false_iff.mpr fun h => hne (allEqual_every_pair l h i j x y hi hj)

/-- the pattern a pairwise-in-chunks comparison misses: `[x, x, y]` -/
example : allEqual ([5, 5, 6] : List ℚ) = false := by decide
example : allEqual ([5, 5, 6, 6] : List ℚ) = false := by decide

section verdict
open AC.Verify AC.Sigma
variable [DecidableEq F]

/-- a reference to a **disclosed** claim has no hidden response: the lookup fails (revealed indices distinct) -/
theorem linkedResponse_disclosed (n off : Nat) (rvl : List Nat) (proof : List F) (claim : Nat)
    (hs : (rvl.mergeSort (· ≤ ·)).Pairwise (· < ·)) (hc : claim ∈ rvl) :
    linkedResponse n off rvl proof claim = none := by
  unfold linkedResponse
  cases h : hiddenProofs n off (rvl.mergeSort (· ≤ ·)) proof with
  | none => rfl
  | some l =>
    have hA := (AC.C05.hiddenProofs_sorted n off _ proof l hs h).1
    have : l.find? (·.1 == claim) = none :=
      List.find?_eq_none.mpr fun x hx hbeq =>
        (hA x.1 x.2 hx).2.1 (beq_iff_eq.mp hbeq ▸ List.mem_mergeSort.mpr hc)
    exact congrArg (Option.map (·.2)) this

/-- **An equality statement one of whose references is disclosed is rejected**, whatever the other references
and whatever the responses: nothing links a disclosed value to the hidden ones (the prover refuses the
combination too; seeded change `disclosed-reference-skipped` dropped the reference instead) -/
theorem equalityVerdict_disclosed_reference (offset claim : Nat) (refs : List (Nat × List Nat × List F))
    (r : Nat × List Nat × List F) (hr : r ∈ refs)
    (hs : (r.2.1.mergeSort (· ≤ ·)).Pairwise (· < ·)) (hc : claim ∈ r.2.1) :
    equalityVerdict offset claim refs = false := by
  unfold equalityVerdict
  cases h : refs.mapM (fun r => linkedResponse r.1 offset r.2.1 r.2.2 claim) with
  | none => rfl
  | some rs =>
    obtain ⟨b, -, hb⟩ := AC.exists_of_mapM_eq_some h hr
    rw [linkedResponse_disclosed r.1 offset r.2.1 r.2.2 claim hs hc] at hb
    cases hb

end verdict

example : allEqual ([5, 5, 5] : List ℚ) = true := by decide

end AC.C09
