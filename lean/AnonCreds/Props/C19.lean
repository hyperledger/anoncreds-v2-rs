import AnonCreds.Model.Codecs
import AnonCreds.Proofs.Pack
/-
C19 — wire formats round-trip. Theorems for the hand-written byte codecs (the crate's own codec logic):
`from_bytes (to_bytes x) = some x` for the repaired decoders, for every value; the pinned BBS decoder's
length test is shown unsatisfiable by any encoding. The serde-derived formats (JSON, CBOR, BARE through
third-party back ends) are exercised on the real code for every object kind; the one structural
fact about them that is a property of the crate's attributes — a positional format cannot decode a
struct whose serialiser skipped a field — is stated on a two-field model.
-/
namespace AC.C19
open AC AC.Codecs
variable {α : Type} {w : Nat}

theorem read_enc (c : Fixed α w) (a : α) (rest : Bytes) : Codecs.read c (c.enc a ++ rest) = some (a, rest) := by
  have hw := c.width a
  unfold Codecs.read
  rw [if_neg (by simp [hw]), List.take_left' hw, List.drop_left' hw, c.roundtrip a]

theorem readMany_write (c : Fixed α w) (l : List α) (rest : Bytes) :
    readMany c l.length (writeMany c l ++ rest) = some (l, rest) := by
  induction l with
  | nil => rfl
  | cons a as ih =>
    unfold writeMany at ih ⊢
    simp only [List.length_cons, readMany, List.flatMap_cons, List.append_assoc, read_enc, ih]

theorem readMany_write_nil (c : Fixed α w) (l : List α) :
    readMany c l.length (writeMany c l) = some (l, []) := by
  simpa using readMany_write c l []

theorem writeMany_length (c : Fixed α w) (l : List α) : (writeMany c l).length = l.length * w := by
  induction l with
  | nil => simp [writeMany]
  | cons a as ih =>
    simp only [writeMany, List.flatMap_cons, List.length_append, c.width a] at *
    rw [ih, List.length_cons, Nat.succ_mul, Nat.add_comm]

theorem readCount_u32 {n : Nat} (h : n < 2 ^ 32) (rest : Bytes) : readCount (u32be n ++ rest) = some (n, rest) := by
  have hl : (toBE 4 n).length = 4 := toBE_length 4 n
  unfold readCount u32be
  rw [if_neg (by simp [hl]), List.take_left' hl, List.drop_left' hl, beVal_toBE 4 n h]

/-- **PS public key** round trip, for every key with fewer than 2^32 generators -/
theorem psPk_roundtrip {G1 G2 : Type} (g1 : Fixed G1 48) (g2 : Fixed G2 96) (k : PsPk G1 G2)
    (hy : k.y.length < 2 ^ 32) (hb : k.yBlinds.length < 2 ^ 32) :
    psPkDecode g1 g2 (psPkEncode g1 g2 k) = some k := by
  unfold psPkDecode psPkEncode
  simp only [List.append_assoc, read_enc, readCount_u32 hy, readMany_write, readCount_u32 hb]
  -- the last run of points must use up the input
  rw [if_neg (not_not_intro (writeMany_length g1 _)), readMany_write_nil]

/-- **BBS proof of knowledge** round trip, for every proof with at least the two mandatory responses -/
theorem bbsPok_roundtrip {G1 F : Type} (g1 : Fixed G1 48) (sc : Fixed F 32) (p : BbsPokBytes G1 F)
    (h2 : 2 ≤ p.proof.length) :
    bbsPokDecode g1 sc (bbsPokEncode g1 sc p) = some p := by
  have hl : (bbsPokEncode g1 sc p).length = 48 * 3 + p.proof.length * 32 := by
    simp only [bbsPokEncode, List.length_append, g1.width, writeMany_length]
  unfold bbsPokDecode
  -- the response part has `32 * n` bytes, which gives back the count `n`
  rw [hl, Nat.add_sub_cancel_left, Nat.mul_mod_left, Nat.mul_div_cancel _ (by decide), if_neg (by omega),
    if_neg (fun h => h rfl)]
  simp only [bbsPokEncode, List.append_assoc, read_enc, readMany_write_nil]

/-- the pinned BBS decoder could not accept any encoding: `144 + 32 k` is never a multiple of 32 -/
theorem pinned_bbs_never_decodes (k : Nat) : pinnedBbsLengthOk (48 * 3 + 32 * k) = false := by
  unfold pinnedBbsLengthOk
  rw [Nat.add_mul_mod_self_left]
  rfl

/-! ### positional formats and skipped fields (known finding F20) -/

/-- a struct with an optional first field; the serialiser skips it when absent -/
def serSkip (label : Option Bytes) (n : UInt8) : List (Option Bytes) :=
  (match label with
   | some l => [some l]
   | none => []) ++ [some [n]]

/-- a positional reader expects both fields -/
def dePositional : List (Option Bytes) → Option (Option Bytes × UInt8)
  | [l, some [n]] => some (l, n)
  | _ => none

theorem positional_fails_on_skipped (n : UInt8) : dePositional (serSkip none n) = none := rfl
theorem positional_ok_when_present (l : Bytes) (n : UInt8) :
    dePositional (serSkip (some l) n) = some (some l, n) := rfl

end AC.C19
