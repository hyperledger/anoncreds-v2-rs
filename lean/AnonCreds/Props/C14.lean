import AnonCreds.Proofs.Vb20
/-
C14 — public witness updates agree with secret-key recomputation.
`F` any field, `G` any `F`-vector space (in particular BLS12-381 G1 over 𝔽_r). The pairing check
`e(C, yP̃ + Q̃) = e(V, P̃)` of `MembershipWitness::verify` is, by bilinearity and non-degeneracy,
`(y + α) • C = V`; that reading of the pairing is part of the trusted base.

Two hypotheses recur. `hd : ∀ d ∈ dels, d + α ≠ 0`: no deleted element is `-α`, where
`SecretKey::batch_deletions` has nothing to invert (the Rust panics there, the model's `⁻¹` yields 0).
`hdel : dad y dels ≠ 0`: `y` is not among the deletions (`Vb20.dad_eq_zero`), so that `evaluate_delta`
returns a delta.
-/
namespace AC.C14
open AC.Vb20

section relations
variable {F : Type} [Field F] {G : Type} [AddCommGroup G] [Module F G]

/-- the witness relation checked by `MembershipWitness::verify` -/
def IsWitness (α y : F) (C V : G) : Prop := (y + α) • C = V

/-- `MembershipWitness::new` produces a witness (for `y + α ≠ 0`) -/
theorem mwNew_isWitness (α y : F) (V : G) (h : y + α ≠ 0) : IsWitness α y (mwNew α y V) V := by
  rw [IsWitness, mwNew, add_comm α y, smul_inv_smul₀ h]

/-- witnesses are unique: anything that verifies is the from-scratch witness -/
theorem isWitness_unique (α y : F) (C V : G) (h : y + α ≠ 0) (hw : IsWitness α y C V) :
    C = mwNew α y V := by
  rw [mwNew, ← hw, add_comm α y, inv_smul_smul₀ h]

/-- a witness for `V` verifies against `V'` only if the accumulator has not moved -/
theorem stale_witness_verifies_iff (α y : F) (C V V' : G) (hw : IsWitness α y C V) :
    IsWitness α y C V' ↔ V' = V := by
  rw [IsWitness, hw, eq_comm]

/-- the relation checked by `NonMembershipWitness::verify` -/
def IsNmWitness (α y : F) (w : NmWitness F G) (P V : G) : Prop := (y + α) • w.c + w.d • P = V

/-- `o` is a correct outcome of `evaluate_delta` / `evaluate_deltas` for element `y` when the
accumulator has moved from `V` to `V'`: a delta `⟨d, p⟩` with `(y + α) • p = V' - d • V`, or no
delta (the caller then keeps its witness) when the accumulator has not moved. -/
def DeltaOk (α y : F) (V V' : G) : Option (Delta F G) → Prop
  | some δ => (y + α) • δ.p = V' - δ.d • V
  | none => V' = V

/-- `MembershipWitness::apply_delta` with a correct outcome keeps the witness relation -/
theorem DeltaOk.isWitness {α y : F} {V V' C : G} :
    ∀ {o : Option (Delta F G)}, DeltaOk α y V V' o → IsWitness α y C V →
      IsWitness α y (match o with | some δ => mwApply C δ | none => C) V'
  | none, ho, hw => ho ▸ hw
  | some δ, ho, hw => by
    simp only [IsWitness, DeltaOk, mwApply] at *
    rw [smul_add, smul_comm, hw, ho, add_sub_cancel]

/-- `NonMembershipWitness::apply_delta` with a correct outcome keeps the witness relation -/
theorem DeltaOk.isNmWitness {α y : F} {P V V' : G} {w : NmWitness F G} :
    ∀ {o : Option (Delta F G)}, DeltaOk α y V V' o → IsNmWitness α y w P V →
      IsNmWitness α y (match o with | some δ => nmApply w δ | none => w) P V'
  | none, ho, hw => ho ▸ hw
  | some δ, ho, hw => by
    simp only [IsNmWitness, DeltaOk, nmApply] at *
    rw [smul_add, smul_comm, ho, mul_comm, mul_smul, add_right_comm, ← smul_add, hw, add_sub_cancel]

/-- the common shape of `evaluate_delta` and `evaluate_deltas`: the coefficients `cs`, evaluated at
`y`, are divided by `D`; this is right when `(y + α) • cs(y) = D • V' - A • V` -/
theorem DeltaOk.of_eval {α y A D : F} {V V' : G} {cs : List G} (hD : D ≠ 0)
    (hnil : cs = [] → V' = V) (hcs : (y + α) • evalG cs y = D • V' - A • V) :
    DeltaOk α y V V' (match polyEvalG cs y with
      | some v => some ⟨A * D⁻¹, D⁻¹ • v⟩
      | none => none) := by
  cases cs with
  | nil => exact hnil rfl
  | cons c cs =>
    simp only [polyEvalG_cons, DeltaOk]
    rw [smul_comm, hcs, smul_sub, inv_smul_smul₀ hD, smul_smul, mul_comm]

end relations

-- `evaluate_delta` and `evaluate_deltas` test a scalar for zero, hence `DecidableEq`; `prodD_published`
-- and the two `deltasPoly` lemmas below do not use it
variable {F : Type} [Field F] [DecidableEq F] {G : Type} [AddCommGroup G] [Module F G]
set_option linter.unusedSectionVars false

theorem evaluateDelta_ok (α y : F) (V : G) (adds dels : List F)
    (hd : ∀ d ∈ dels, d + α ≠ 0) (hdel : dad y dels ≠ 0) :
    DeltaOk α y V (accUpdate α V adds dels).1
      (evaluateDelta y adds dels (accUpdate α V adds dels).2) := by
  simp only [evaluateDelta, if_neg hdel]
  exact DeltaOk.of_eval hdel (accUpdate_of_nil α V adds dels) (accUpdate_eval α y V adds dels hd)

/-- **Batch update.** For every batch of additions and deletions not containing `y`, every secret key
that can process the deletions (`hd`) and every witness that verifies against the old accumulator, the
witness updated from the published coefficients alone verifies against the new accumulator. -/
theorem batch_update_isWitness (α y : F) (V C : G) (adds dels : List F)
    (hd : ∀ d ∈ dels, d + α ≠ 0) (hdel : dad y dels ≠ 0)
    (hw : IsWitness α y C V) :
    IsWitness α y (mwBatchUpdate C y adds dels (accUpdate α V adds dels).2) (accUpdate α V adds dels).1 :=
  (evaluateDelta_ok α y V adds dels hd hdel).isWitness hw

/-- … and therefore equals the witness recomputed from scratch with the secret key -/
theorem batch_update_eq_recomputed (α y : F) (V : G) (adds dels : List F)
    (hy : y + α ≠ 0) (hd : ∀ d ∈ dels, d + α ≠ 0) (hdel : dad y dels ≠ 0) :
    mwBatchUpdate (mwNew α y V) y adds dels (accUpdate α V adds dels).2
      = mwNew α y (accUpdate α V adds dels).1 :=
  isWitness_unique α y _ _ hy
    (batch_update_isWitness α y V _ adds dels hd hdel (mwNew_isWitness α y V hy))

/-- a batch is a pair (additions, deletions); the accumulator history and the stepwise update -/
def runAcc (α : F) (V : G) : List (List F × List F) → G
  | [] => V
  | b :: bs => runAcc α (accUpdate α V b.1 b.2).1 bs

def runWitness (α : F) (y : F) (V C : G) : List (List F × List F) → G
  | [] => C
  | b :: bs =>
    runWitness α y (accUpdate α V b.1 b.2).1 (mwBatchUpdate C y b.1 b.2 (accUpdate α V b.1 b.2).2) bs

/-- **Every history of batches** (any number, any sizes incl. empty sides): updating batch by batch
from the published data yields a verifying witness, as long as `y` is never deleted. -/
theorem history_update_isWitness (α y : F) (V C : G) (bs : List (List F × List F))
    (hd : ∀ b ∈ bs, ∀ d ∈ b.2, d + α ≠ 0) (hdel : ∀ b ∈ bs, dad y b.2 ≠ 0)
    (hw : IsWitness α y C V) :
    IsWitness α y (runWitness α y V C bs) (runAcc α V bs) := by
  induction bs generalizing V C with
  | nil => exact hw
  | cons b bs ih =>
    rw [List.forall_mem_cons] at hd hdel
    exact ih _ _ hd.2 hdel.2 (batch_update_isWitness α y V C b.1 b.2 hd.1 hdel.1 hw)

/-! ### one multi-batch call over the whole history (`evaluate_deltas`) -/

/-- the data the issuer publishes along a history of batches, starting from accumulator `V` -/
def published (α : F) (V : G) : List (List F × List F) → List (List F × List F × List G)
  | [] => []
  | b :: bs => (b.1, b.2, (accUpdate α V b.1 b.2).2) :: published α (accUpdate α V b.1 b.2).1 bs

theorem prodD_published (α y : F) (V : G) (bs : List (List F × List F)) :
    prodD y (published α V bs) = (bs.map fun b => dad y b.2).prod := by
  induction bs generalizing V with
  | nil => simp [published, prodD]
  | cons b bs ih => simp [published, prodD, ih]

/-- telescoping identity behind `evaluate_deltas` -/
theorem deltasPoly_eval (α y : F) (V : G) (bs : List (List F × List F)) (pre : F)
    (hd : ∀ b ∈ bs, ∀ d ∈ b.2, d + α ≠ 0) :
    (y + α) • evalG (deltasPoly y pre (published α V bs)) y
      = pre • (prodD y (published α V bs) • runAcc α V bs - prodA y (published α V bs) • V) := by
  induction bs generalizing V pre with
  | nil => simp [published, deltasPoly, evalG, prodD, prodA, runAcc]
  | cons b bs ih =>
    rw [List.forall_mem_cons] at hd
    simp only [published, deltasPoly, prodD, prodA, runAcc, evalG_polyAddG, evalG_const_smul, smul_add]
    rw [ih _ _ hd.2, smul_comm (y + α), accUpdate_eval α y V b.1 b.2 hd.1]
    -- the terms in the accumulator after `b` cancel
    module

/-- when nothing at all is published the accumulator did not move -/
theorem runAcc_of_deltasPoly_nil (α y : F) (V : G) (bs : List (List F × List F)) (pre : F)
    (h : deltasPoly y pre (published α V bs) = []) : runAcc α V bs = V := by
  induction bs generalizing V pre with
  | nil => rfl
  | cons b bs ih =>
    simp only [published, deltasPoly, polyAddG_eq_nil, List.map_eq_nil_iff] at h
    have hV := accUpdate_of_nil α V b.1 b.2 h.1
    rw [hV] at h
    rw [runAcc, hV, ih V _ h.2]

theorem evaluateDeltas_ok (α y : F) (V : G) (bs : List (List F × List F))
    (hd : ∀ b ∈ bs, ∀ d ∈ b.2, d + α ≠ 0) (hdel : ∀ b ∈ bs, dad y b.2 ≠ 0) :
    DeltaOk α y V (runAcc α V bs) (evaluateDeltas y (published α V bs)) := by
  have hD : prodD y (published α V bs) ≠ 0 := by
    rw [prodD_published, Ne, List.prod_eq_zero_iff, List.mem_map]
    exact fun ⟨b, hb, e⟩ => hdel b hb e
  simp only [evaluateDeltas, if_neg hD]
  exact DeltaOk.of_eval hD (runAcc_of_deltasPoly_nil α y V bs 1)
    (by rw [deltasPoly_eval α y V bs 1 hd, one_smul])

/-- **Multi-batch update.** For every history of batches (any number, any sizes, empty ones included)
none of which deletes `y`, the witness updated by **one** `multi_batch_update` call over all the
published data verifies against the final accumulator. -/
theorem multi_batch_update_isWitness (α y : F) (V C : G) (bs : List (List F × List F))
    (hd : ∀ b ∈ bs, ∀ d ∈ b.2, d + α ≠ 0) (hdel : ∀ b ∈ bs, dad y b.2 ≠ 0)
    (hw : IsWitness α y C V) :
    IsWitness α y (mwMultiBatchUpdate C y (published α V bs)) (runAcc α V bs) :=
  (evaluateDeltas_ok α y V bs hd hdel).isWitness hw

/-- … which therefore equals the witness obtained batch by batch, and the one recomputed with the secret key -/
theorem multi_batch_eq_stepwise (α y : F) (V C : G) (bs : List (List F × List F))
    (hy : y + α ≠ 0) (hd : ∀ b ∈ bs, ∀ d ∈ b.2, d + α ≠ 0) (hdel : ∀ b ∈ bs, dad y b.2 ≠ 0)
    (hw : IsWitness α y C V) :
    mwMultiBatchUpdate C y (published α V bs) = runWitness α y V C bs := by
  rw [isWitness_unique α y _ _ hy (multi_batch_update_isWitness α y V C bs hd hdel hw),
      isWitness_unique α y _ _ hy (history_update_isWitness α y V C bs hd hdel hw)]

/-- **Deleted element.** If `y` is among the deletions the update procedure leaves the witness
unchanged, and an unchanged witness verifies against the new accumulator only if the accumulator did
not move (`stale_witness_verifies_iff`). -/
theorem deleted_no_update (y : F) (C : G) (adds dels : List F) (coefs : List G) (h : y ∈ dels) :
    mwBatchUpdate C y adds dels coefs = C := by
  simp [mwBatchUpdate, evaluateDelta, dad_eq_zero.2 h]

/-- single-step update, one addition -/
theorem single_step_addition (α y a : F) (V C : G) (hw : IsWitness α y C V) :
    IsWitness α y (mwUpdate C y V ((a + α) • V) [a] []) ((a + α) • V) := by
  subst hw
  show (y + α) • ((a - y) • C + (y + α) • C) = (a + α) • (y + α) • C
  module

/-- single-step update, one deletion `d ≠ y` -/
theorem single_step_deletion (α y d : F) (V C : G) (hd : d + α ≠ 0) (hne : d - y ≠ 0)
    (hw : IsWitness α y C V) :
    IsWitness α y (mwUpdate C y V ((d + α)⁻¹ • V) [] [d]) ((d + α)⁻¹ • V) := by
  -- in terms of the new accumulator `W`: `V = (d + α) • W`, so `(y + α) • (C - W) = (d - y) • W`
  rw [← smul_inv_smul₀ hd V] at hw
  simp only [IsWitness, mwUpdate, mwUpdate.go, mwUpdateAdds, hne, if_false]
  rw [smul_comm, smul_sub, hw, ← sub_smul, add_sub_add_right_eq_sub, inv_smul_smul₀ hne]

/-- the single-step procedure is **not** correct for two additions in one call (known finding
`single-step-multi-element`): in every field, α = 0, y = 1, V = 1, additions 2 and 3 (new value
6 • V) give 5, not the witness 6 — the old accumulator is added twice. -/
theorem single_step_two_additions_wrong :
    ¬ IsWitness (0 : F) (1 : F) (mwUpdate (F := F) (G := F) 1 1 1 6 [2, 3] []) (6 : F) := by
  simp only [IsWitness, mwUpdate, mwUpdate.go, mwUpdateAdds, smul_eq_mul]
  intro h
  have : (1 : F) = 0 := by linear_combination (-1 : F) * h
  exact one_ne_zero this

/-! ### non-membership witnesses -/

theorem nm_batch_update_isWitness (α y : F) (P V : G) (w : NmWitness F G) (adds dels : List F)
    (hd : ∀ d ∈ dels, d + α ≠ 0) (hdel : dad y dels ≠ 0)
    (hw : IsNmWitness α y w P V) :
    IsNmWitness α y (nmBatchUpdate w y adds dels (accUpdate α V adds dels).2) P (accUpdate α V adds dels).1 :=
  (evaluateDelta_ok α y V adds dels hd hdel).isNmWitness hw

/-- **Multi-batch update of a non-membership witness**, for every history not deleting `y` (`y` was
never a member; `hdel` keeps the evaluation defined). -/
theorem nm_multi_batch_update_isWitness (α y : F) (P V : G) (w : NmWitness F G) (bs : List (List F × List F))
    (hd : ∀ b ∈ bs, ∀ d ∈ b.2, d + α ≠ 0) (hdel : ∀ b ∈ bs, dad y b.2 ≠ 0)
    (hw : IsNmWitness α y w P V) :
    IsNmWitness α y (nmMultiBatchUpdate w y (published α V bs)) P (runAcc α V bs) :=
  (evaluateDeltas_ok α y V bs hd hdel).isNmWitness hw

/-- `hdel` can be met: it holds of every batch without deletions -/
example : dad (5 : F) [] ≠ 0 := by simp [dad]

end AC.C14
