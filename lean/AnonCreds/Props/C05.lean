import AnonCreds.Proofs.Sigma
import AnonCreds.Proofs.Lists
import AnonCreds.Props.C01
/-
C05 — predicate proofs are bound to the referenced signed claim.
(1) The index → response lookup (`get_hidden_message_proofs`) on a strictly ascending list — which
is what every caller passes after the repair — returns for a hidden index `i` the response at slot
`offset + i - #{revealed < i}`, i.e. the response the proof of knowledge multiplies with `yᵢ`.
(2) Each predicate verifier recomputes its Schnorr commitment with that *shared* response; special
soundness then extracts the predicate's witness with the same difference quotient
`(p - p')/(c - c')` that the signature extractor (C17) assigns to message `i`: the predicate speaks
about the signed value (no binding assumption needed — it is one and the same number).
-/
namespace AC.C05
open AC.Sigma
variable {F G : Type} [Field F] [AddCommGroup G] [Module F G]

/-- commitment statement: two accepting recomputations ⇒ `C = m•M + b•B` with `m` the difference
quotient of the shared message responses -/
theorem commitment_sound (M B C R : G) (c c' pm pm' pb pb' : F) (hc : c ≠ c')
    (h1 : commitmentRecommit M B C c pm pb = R) (h2 : commitmentRecommit M B C c' pm' pb' = R) :
    C = ((pm - pm') / (c - c')) • M + ((pb - pb') / (c - c')) • B := by
  rw [commitmentRecommit_eq] at h1 h2
  simpa [extract] using (recommit_sound [M, B] C R c c' [pm, pb] [pm', pb'] hc rfl rfl h1 h2).symm

/-- ElGamal statement: two accepting recomputations ⇒ `c1 = ρ•g` and `c2 = m•M + ρ•K` with the same
`ρ` and `m` the difference quotient of the shared message responses; hence decryption with
`K = sk•g` yields `c2 - sk•c1 = m•M` -/
theorem elgamal_sound (g M K c1 c2 R1 R2 : G) (c c' pm pm' pb pb' : F) (hc : c ≠ c')
    (h1 : elgamalRecommit g M K c1 c2 c pm pb = (R1, R2))
    (h2 : elgamalRecommit g M K c1 c2 c' pm' pb' = (R1, R2)) :
    c1 = ((pb - pb') / (c - c')) • g ∧
    c2 = ((pm - pm') / (c - c')) • M + ((pb - pb') / (c - c')) • K := by
  rw [elgamalRecommit_eq, Prod.mk.injEq] at h1 h2
  constructor
  · simpa [extract] using (recommit_sound [g] c1 R1 c c' [pb] [pb'] hc rfl rfl h1.1 h2.1).symm
  · simpa [extract] using (recommit_sound [M, K] c2 R2 c c' [pm, pb] [pm', pb'] hc rfl rfl h1.2 h2.2).symm

/-- the extractor is positional: the witness the signature extractor assigns to slot `k` is the
difference quotient of the responses at slot `k` — the number the predicate extractors use -/
theorem extract_get (c c' : F) (p p' : List F) (k : Nat) (x x' : F) (h : p[k]? = some x) (h' : p'[k]? = some x') :
    (extract c c' p p')[k]? = some ((x - x') / (c - c')) := by
  unfold extract
  rw [List.getElem?_zipWith, h, h']

/-- accumulator statements (revocation, membership) carry their own response `s_y`; the verifier
requires `s_y` to equal the shared response for both challenges, so the two difference quotients agree -/
theorem linked_response_same_witness (c c' sy sy' p p' : F) (h : sy = p) (h' : sy' = p') :
    (sy - sy') / (c - c') = (p - p') / (c - c') := by rw [h, h']

/-! ### the lookup -/

/-- number of revealed indices below `i` -/
def below (rvl : List Nat) (i : Nat) : Nat := (rvl.filter (· < i)).length

theorem below_cons_of_lt {x i : Nat} (h : x < i) (xs : List Nat) : below (x :: xs) i = below xs i + 1 := by
  rw [below, List.filter_cons_of_pos (by exact decide_eq_true h)]; rfl

theorem below_cons_of_le {x i : Nat} (h : i ≤ x) (xs : List Nat) : below (x :: xs) i = below xs i := by
  rw [below, List.filter_cons_of_neg (by exact mt of_decide_eq_true (Nat.not_lt_of_le h))]; rfl

theorem below_eq_zero {rvl : List Nat} {i : Nat} (h : ∀ x ∈ rvl, i ≤ x) : below rvl i = 0 := by
  rw [below, List.length_eq_zero_iff, List.filter_eq_nil_iff]
  intro x hx
  simpa using h x hx

/-- in an ascending list the entry at position `#{revealed < i}` is the first one `≥ i` -/
theorem getElem?_below {rvl : List Nat} (hs : rvl.Pairwise (· < ·)) {i : Nat} :
    rvl[below rvl i]? = some i ↔ i ∈ rvl := by
  induction rvl with
  | nil => simp
  | cons x xs ih =>
    rw [List.pairwise_cons] at hs
    rw [List.mem_cons]
    by_cases hx : x < i
    · rw [below_cons_of_lt hx, List.getElem?_cons_succ, ih hs.2, or_iff_right (Nat.ne_of_gt hx)]
    · have hi : i ∉ xs := fun h => hx (hs.1 i h)
      rw [below_cons_of_le (Nat.le_of_not_lt hx), below_eq_zero fun y hy => by have := hs.1 y hy; omega,
        List.getElem?_cons_zero, Option.some.injEq, or_iff_left hi, eq_comm]

theorem below_succ (rvl : List Nat) (i : Nat) : below rvl (i + 1) = below rvl i + rvl.count i := by
  induction rvl with
  | nil => rfl
  | cons x xs ih =>
    rcases Nat.lt_trichotomy x i with h | rfl | h
    · rw [below_cons_of_lt h, below_cons_of_lt (Nat.lt_succ_of_lt h), ih, List.count_cons_of_ne (Nat.ne_of_lt h),
        Nat.add_right_comm]
    · rw [below_cons_of_lt (Nat.lt_succ_self x), below_cons_of_le (Nat.le_refl x), ih, List.count_cons_self,
        Nat.add_assoc]
    · rw [below_cons_of_le (Nat.le_of_lt h), below_cons_of_le h, ih, List.count_cons_of_ne (Nat.ne_of_gt h)]

/-- the invariant of the loop on an ascending list: the cursor is `#{revealed < i}`, so `getElem?_below`
decides its test and `below_succ` follows its step -/
theorem hiddenProofs_go_eq {α : Type} (off : Nat) (rvl : List Nat) (proof : List α) (hs : rvl.Pairwise (· < ·))
    (fuel i : Nat) (acc : List (Nat × α)) :
    hiddenProofs.go off rvl proof fuel i (below rvl i) acc =
      (((List.range' i fuel).filter (· ∉ rvl)).mapM fun a => (proof[off + a - below rvl a]?).map (a, ·)).map
        (acc.reverse ++ ·) := by
  induction fuel generalizing i acc with
  | zero => exact congrArg some (List.append_nil _).symm
  | succ fuel ih =>
    rw [hiddenProofs.go, List.range'_succ]
    by_cases hi : i ∈ rvl
    · have hb : below rvl (i + 1) = below rvl i + 1 := by rw [below_succ, List.count_eq_one_of_mem hs.nodup hi]
      rw [if_pos ((getElem?_below hs).mpr hi), ← hb, ih, List.filter_cons_of_neg (by simpa using hi)]
    · have hb : below rvl (i + 1) = below rvl i := by rw [below_succ, List.count_eq_zero_of_not_mem hi]; rfl
      rw [if_neg (mt (getElem?_below hs).mp hi), List.filter_cons_of_pos (by simpa using hi), List.mapM_cons]
      cases hm : proof[off + i - below rvl i]? with
      | none => rfl
      | some m =>
        dsimp only
        rw [← hb, ih]
        cases List.mapM (m := Option) _ _ with
        | none => rfl
        | some bs => exact congrArg some (by simp)

/-- closed form of the lookup on a strictly ascending revealed list -/
theorem hiddenProofs_eq {α : Type} (n off : Nat) (rvl : List Nat) (proof : List α) (hs : rvl.Pairwise (· < ·)) :
    hiddenProofs n off rvl proof =
      if n < rvl.length then none
      else ((List.range n).filter (· ∉ rvl)).mapM fun a => (proof[off + a - below rvl a]?).map (a, ·) := by
  have := hiddenProofs_go_eq off rvl proof hs n 0 []
  rw [below_eq_zero fun x _ => Nat.zero_le x] at this
  rw [hiddenProofs, this, List.range_eq_range']
  split
  · rfl
  · cases List.mapM (m := Option) _ _ <;> rfl

/-- **The lookup on a strictly ascending revealed list.** It returns exactly the hidden indices, each
with the response at slot `offset + i - #{revealed < i}` — the slot at which the proof of knowledge pairs
`yᵢ` (hidden generators are taken in index order, `offset` = 0 for BBS, 2 for PS). -/
theorem hiddenProofs_sorted (n off : Nat) (rvl : List Nat) (proof : List F) (l : List (Nat × F))
    (hs : rvl.Pairwise (· < ·)) (h : hiddenProofs n off rvl proof = some l) :
    (∀ a m, (a, m) ∈ l → a < n ∧ a ∉ rvl ∧ proof[off + a - below rvl a]? = some m) ∧
    (∀ a, a < n → a ∉ rvl → ∃ m, (a, m) ∈ l) := by
  rw [hiddenProofs_eq n off rvl proof hs] at h
  split at h
  · cases h
  · constructor
    · intro a m hm
      obtain ⟨b, hb, e⟩ := (mem_of_mapM_eq_some h).mp hm
      obtain ⟨x, hx, e⟩ := Option.map_eq_some_iff.mp e
      cases e
      rw [List.mem_filter, List.mem_range, decide_eq_true_eq] at hb
      exact ⟨hb.1, hb.2, hx⟩
    · intro a han har
      obtain ⟨⟨a', m⟩, hl, e⟩ :=
        exists_of_mapM_eq_some h (List.mem_filter.mpr ⟨List.mem_range.mpr han, decide_eq_true har⟩)
      obtain ⟨x, -, e⟩ := Option.map_eq_some_iff.mp e
      cases e
      exact ⟨m, hl⟩

/-- on an **unsorted** list the lookup shifts (pinned behaviour, finding F03/C05): with 5 messages and
revealed indices listed as `[3, 1]`, the response returned for index 2 is the one at slot 2 — the slot of
message 4 in the proof of knowledge (hidden generators y₀, y₂, y₄), not slot 1 -/
theorem unsorted_list_shifts_slot :
    hiddenProofs 5 0 [3, 1] ([10, 12, 14, 100, 101] : List Nat)
      = some [(0, 10), (1, 12), (2, 14), (4, 100)] := by decide

/-- while the sorted list gives message 2 its own response -/
example : hiddenProofs 5 0 [1, 3] ([10, 12, 14, 100, 101] : List Nat) = some [(0, 10), (2, 12), (4, 14)] := by
  decide

/-! ### decision logic: no accepted predicate without a link (Model/Verify.lean) -/
section link
open AC.Verify
variable {F : Type} [DecidableEq F]

/-- **Accepted ⇒ every predicate is linked.** If `verify` accepts, each revocation / membership /
commitment / encryption statement refers to an entry of the presentation that is a *signature* proof,
whose own id names a signature statement of the schema, and whose index → response lookup contains the
statement's claim index — in particular the claim is hidden: a predicate over a disclosed claim (for
which no response exists and nothing could link the predicate proof to the credential) is rejected. -/
theorem verify_ok_predicate_linked (enc : ClaimData → F) (stmts : List Stmt) (p : Pres F) (ck : Checks)
    (h : verify enc stmts p ck = .ok) (q : PredStmt) (hq : Stmt.pred q ∈ stmts)
    (hk : q.kind ≠ .equality ∧ q.kind ≠ .range ∧ q.kind ≠ .signature) :
    ∃ r c rest, q.refs = (r, c) :: rest ∧ resolveRef stmts p r c = true := by
  obtain ⟨_, _, _, he | ⟨_, hres⟩⟩ :=
    planPred_eq_none.1 ((planStage_eq_none.1 (C01.verify_ok_checks enc stmts p ck h).1).2.2 q hq)
  · exact absurd he hk.1
  · -- no reference: `hres` is `False`; otherwise the non-range arm of `planPred_eq_none`
    rcases hr : q.refs with _ | ⟨⟨r, c⟩, rest⟩ <;> simp only [hr, hk.2.1, if_false] at hres
    exact ⟨r, c, rest, rfl, hres⟩

omit [DecidableEq F] in
theorem resolveRef_spec (stmts : List Stmt) (p : Pres F) (r : String) (c : Nat)
    (h : resolveRef stmts p r c = true) :
    ∃ pr, p.proofs.lookup r = some pr ∧ pr.kind = .signature ∧
      (∃ s, stmts.find? (·.id == pr.innerId) = some (.sig s)) ∧
      ∃ l, pr.hiddenIdx = some l ∧ c ∈ l :=
  resolveRef_iff.1 h

end link

/-- why the verifier's response lookup must be keyed by the *pair* (statement id, claim index): written next
to each other the two collide (oracle: aliasing identifiers `cred`/`cred1`) -/
theorem concatenated_key_collides : "cred" ++ toString 11 = "cred1" ++ toString 1 ∧ ("cred", 11) ≠ ("cred1", 1) := by
  decide

end AC.C05
