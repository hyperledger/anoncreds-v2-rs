import AnonCreds.Proofs.CreatePlan
/-
C20 — totality on untrusted input. The model of every partial Rust function returns `Outcome`, whose
`panic` constructor is produced exactly where the Rust code indexes, slices, unwraps or subtracts on
externally controlled data. A theorem `…_total` says the modelled entry point never reaches one.
Termination of every model function is by structural / well-founded recursion accepted by Lean.
-/
namespace AC.C20
open AC

/-- a conditional does not panic when neither branch does -/
theorem isPanic_ite {α : Type} {c : Prop} [Decidable c] {a b : Outcome α}
    (ha : a.isPanic = false) (hb : b.isPanic = false) : (if c then a else b).isPanic = false := by
  split <;> assumption

theorem tailOfLen_total (s len : Nat) : (tailOfLen s len).isPanic = false :=
  isPanic_ite rfl rfl

/-- `ScalarClaim::decode_to_bytes` on an arbitrary scalar -/
theorem decodeToBytes_total (s : Nat) : (decodeToBytes s).isPanic = false :=
  tailOfLen_total s ((toBE 32 s).getD 0 0).toNat

/-- `ScalarClaim::decode_to_str` on an arbitrary scalar -/
theorem decodeToStr_total (s : Nat) : (decodeToStr s).isPanic = false := by
  -- the only panic of `decode_to_str` is the one it would pass on from `tailOfLen`
  unfold decodeToStr
  have h := tailOfLen_total s ((toBE 32 s).getD 0 0).toNat
  generalize tailOfLen s _ = o at h ⊢
  cases o
  · exact isPanic_ite rfl rfl
  · rfl
  · exact h

/-- `ScalarClaim::encode_bytes` / `encode_str` on arbitrary input -/
theorem encodeBytes_total (b : Bytes) : (encodeBytes b).isPanic = false := by
  unfold encodeBytes
  exact isPanic_ite rfl (isPanic_ite rfl rfl)

/-- `ClaimData::from_bytes` for every claim type and byte string -/
theorem fromBytes_total (t : ClaimType) (d : Bytes) : (ClaimData.fromBytes true t d).isPanic = false := by
  cases t with
  | hashed | enumeration => rfl
  | number => exact isPanic_ite rfl rfl
  | scalar | revocation => exact isPanic_ite rfl (isPanic_ite rfl rfl)

/-- `ClaimData::from_text` for every (valid UTF-8) string -/
theorem fromText_total (s : Bytes) : (ClaimData.fromText true s).isPanic = false := by
  -- one step per tag of the parser: with `strict = true` every leaf is `.ok _` or `.err`
  unfold ClaimData.fromText
  refine isPanic_ite rfl ?_
  refine isPanic_ite (by split <;> rfl) ?_
  refine isPanic_ite rfl ?_
  refine isPanic_ite (by split <;> rfl) ?_
  refine isPanic_ite ?_ ?_
  · rw [if_pos rfl]
    refine isPanic_ite rfl ?_
    split
    · exact isPanic_ite rfl rfl
    · rfl
  refine isPanic_ite rfl ?_
  refine isPanic_ite ?_ rfl
  split
  · split <;> rfl
  · rfl

/-- `ClaimData::to_text` does not panic on claims whose print-friendly hashed values are UTF-8 — which
every decoder guarantees -/
theorem toText_total (c : ClaimData)
    (h : ∀ v, c = .hashed v true → utf8Valid v = true) : c.toText.isPanic = false := by
  cases c with
  | hashed v pf =>
    cases pf with
    | true => simp [ClaimData.toText, h v rfl, Outcome.isPanic]
    | false => rfl
  | _ => rfl

/-- the pinned behaviour did panic (replayed by the harness before the repairs):
`from_text` on a string shorter than the 4-byte tag and `from_bytes(Scalar, 3 bytes)` -/
theorem pinned_fromText_panics : (ClaimData.fromText false [97, 98]).isPanic = true := by decide
theorem pinned_fromBytes_panics : (ClaimData.fromBytes false .scalar [1, 2, 3]).isPanic = true := by decide

/-! ### `Presentation::create` on a verifier-supplied schema (`Model/Create.lean`)

The model returns a Boolean: every map / vector access of the real code is an explicit lookup whose
failure is the `false` (error) outcome — the repaired behaviour; the pinned code indexed and unwrapped
at the same places. What acceptance guarantees: -/
section create
open AC.Create AC.Verify AC.CreatePlan

/-- **What an accepted schema guarantees.** If `create` produces a presentation, every revocation /
membership / commitment / encryption statement refers to a signature statement of the schema whose
credential the holder supplied, at an existing claim index whose label the verifier did not ask to
disclose. -/
theorem create_ok_references_resolve (creds : List (String × CredI)) (stmts : List CStmt)
    (h : createOk creds stmts = true) (kind : Kind) (id ref : String) (claim : Nat)
    (hm : CStmt.simple kind id ref claim ∈ stmts) :
    ∃ disclosed labels nKey cs, CStmt.sig ref disclosed labels nKey ∈ stmts ∧
      sigClaims creds ref = some cs ∧ claim < cs.length ∧
      ∃ l, labels[claim]? = some l ∧ disclosed.contains l = false := by
  obtain ⟨ms, bs, hms, hpo, _⟩ := createOk_spec h
  obtain ⟨v, hl, hv⟩ := hiddenClaim_iff.1 ((predsOk_spec hpo).1 kind id ref claim (List.mem_filter.2 ⟨hm, rfl⟩))
  obtain ⟨d, labels, n, cs, hsig, hc, rfl⟩ := (mem_messagesOf hms).1 (mem_of_lookup hl)
  -- entry `claim` of the message vector exists and is `hidden`: the index is in range and its label not requested
  obtain ⟨l, hg, hd⟩ := Option.map_eq_some_iff.1 (List.getElem?_map .. ▸ hv)
  rw [List.getElem?_take] at hg
  split at hg
  · next hlt =>
    have hnd : d.contains l = false := Bool.eq_false_iff.2 fun hc => by rw [if_pos hc] at hd; cases hd
    exact ⟨d, labels, n, cs, hsig, hc, hlt, l, hg, hnd⟩
  · cases hg

example : createOk [("s", .sig [⟨1, none⟩, ⟨2, some 5⟩])]
    [.sig "s" ["a"] ["a", "b"] 2, .simple .commitment "c" "s" 1, .range "r" "c" "s" 1 (some 0) none] = true := by decide

end create

end AC.C20
