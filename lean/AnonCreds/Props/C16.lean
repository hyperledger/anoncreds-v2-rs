import AnonCreds.Proofs.Sigma
/-
C16 — blind issuance is correct, enforces issuer policy, and hides blinded claims.
Algebra of the three-step flow for both suites (request proof completeness and special soundness over
the generators the issuer does not know, blind signing + unblinding yields a signature on the
union vector), the effect of the repaired response-count check, perfect hiding of the PS request and
the deterministic BBS commitment (known finding). The policy itself (blindable, disjoint, cover) is
decision logic checked on the real issuer by the harness.
-/
namespace AC.C16
open AC.Sigma
variable {F G : Type} [Field F] [AddCommGroup G] [Module F G]

/-- request completeness: commitment `msm (hid ++ extra) secrets`, responses `n + c•secrets` recompute
the hashed `msm (hid ++ extra) n` — provided the secrets are listed in the order of the hidden
generators (index order: the repaired request) -/
theorem blind_request_complete (ys : List G) (known : List Nat) (extra : List G) (c : F)
    (secrets n : List F) (hs : secrets.length = (hiddenGens ys known).length + extra.length)
    (hn : n.length = secrets.length) :
    blindRecommit ys known extra
      ⟨msm (hiddenGens ys known ++ extra) secrets, c, respond c n secrets⟩
      = msm (hiddenGens ys known ++ extra) n :=
  recommit_complete (hiddenGens ys known ++ extra) c n secrets (by simp [hn, hs]) (by simp [hs])

/-- special soundness on the issuer side: two accepting contexts with the same commitment and hashed
value but different challenges give an opening of the commitment over the generators the issuer
does **not** know (and the blinding generator) only -/
theorem blind_ctx_sound (ys : List G) (known : List Nat) (extra : List G) (C R : G) (c c' : F)
    (p p' : List F) (hc : c ≠ c')
    (hl : p.length = (hiddenGens ys known).length + extra.length)
    (hl' : p'.length = (hiddenGens ys known).length + extra.length)
    (h1 : blindRecommit ys known extra ⟨C, c, p⟩ = R) (h2 : blindRecommit ys known extra ⟨C, c', p'⟩ = R) :
    ∃ s : List F, s.length = (hiddenGens ys known).length + extra.length ∧
      C = msm (hiddenGens ys known ++ extra) s := by
  rw [blindRecommit_eq] at h1 h2
  exact ⟨extract c c' p p', by simp [hl, hl'],
    (recommit_sound _ C R c c' p p' hc (by simp [hl]) (by simp [hl']) h1 h2).symm⟩

/-- without the response-count check one extra response makes the hashed value independent of the
challenge: any group element is accepted as commitment (pinned behaviour) -/
theorem blind_overlong_ignores_challenge (ys : List G) (known : List Nat) (extra : List G) (C : G) (c c' : F)
    (p : List F) (hl : p.length = (hiddenGens ys known).length + extra.length + 1) :
    blindRecommit ys known extra ⟨C, c, p⟩ = blindRecommit ys known extra ⟨C, c', p⟩ := by
  rw [blindRecommit_eq, blindRecommit_eq]
  exact recommit_overlong _ C c c' p (by simp [hl])

/-- the repaired verifier rejects every other length -/
theorem blindVerify_length (ys : List G) (known : List Nat) (extra : List G) (ctx : BlindCtx F G)
    (hashOk : G → Bool) (h : blindVerify ys known extra ctx hashOk = some true) :
    ctx.proofs.length = (hiddenGens ys known).length + extra.length := by
  by_contra hne
  rw [blindVerify, if_pos hne] at h
  split at h <;> cases h

/-- BBS: blind signing on `g1 + C + Σ_known` with `C = Σ_hidden` is a signature on the union vector
(`B_union = g1 + C + K`); unblinding is the identity -/
theorem bbs_blind_flow (x e : F) (g1 C K : G) (hxe : x + e ≠ 0) :
    (x + e) • ((x + e)⁻¹ • (g1 + C + K)) = g1 + C + K :=
  smul_inv_smul₀ hxe _

/-- PS: `σ₂ = u•(exp•g + C)` with `C = h•g + b•g` (hidden exponent `h`, blinding `b`), `σ₁ = u•g`;
unblinding `σ₂ - b•σ₁` is `(exp + h)•σ₁`: a signature on the union vector -/
theorem ps_blind_flow (g : G) (u exp h b : F) :
    u • (exp • g + (h • g + b • g)) - b • (u • g) = (exp + h) • (u • g) := by module

/-- PS request is perfectly hiding: for any two hidden exponents the blinding factors `b`,
`b + (h - h')` give the same commitment (a translation of the randomness) -/
theorem ps_blind_hiding (g : G) (h h' b : F) : h • g + b • g = h' • g + (b + (h - h')) • g := by module

/-- BBS request commitment has no blinding factor: it is a deterministic function of the hidden
values, so a guess can be tested against it (known finding `bbs-blind-commitment-deterministic`) -/
theorem bbs_blind_commitment_deterministic (hid : List G) (ms : List F) :
    ∀ r r' : F, (fun (_ : F) => msm hid ms) r = (fun (_ : F) => msm hid ms) r' := fun _ _ => rfl

example : (hiddenGens [(1:Nat), 2, 3, 4] [0, 2]).length + 1 = 3 := by decide

/-- what the context's challenge hashes determines the holder's commitment (and the recomputed value, the
key and the nonce): two requests with different commitments feed different item lists to the hash, for
both suites — the challenge cannot be fixed before the commitment is chosen. Tie: `bl.items` (the model's
list vs the items the real issuer appended, read from the merlin log). -/
theorem blindItems_binds {B : Type} (bbs : Bool) (pk gen rc bc nonce pk' gen' rc' bc' nonce' : B)
    (h : blindItems bbs pk gen rc bc nonce = blindItems bbs pk' gen' rc' bc' nonce') :
    pk = pk' ∧ rc = rc' ∧ bc = bc' ∧ nonce = nonce' := by
  cases bbs <;> simp [blindItems] at h <;> simp [h]

example : blindItems true "k" "g" "r" "c" "n" ≠ blindItems true "k" "g" "r" "r" "n" := by decide

end AC.C16
