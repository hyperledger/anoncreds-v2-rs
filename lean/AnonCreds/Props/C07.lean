import AnonCreds.Proofs.Sigma
/-
C07 — undisclosed claims stay confidential, including low-entropy ones.
Perfect statements (no computational assumption), for every challenge: (1) a linear Σ-protocol is
witness-indistinguishable — two witnesses of the same statement give identical (commitment, responses)
under a bijection of the nonces; (2) a Pedersen commitment with an independent blinding factor is
perfectly hiding (one-dimensional group); (3) the randomised signature elements a_bar / (σ₁', σ₂') do
not depend on which valid signature was used (C12). Together: signature, commitment, range (its
bulletproof is trusted zero-knowledge) and equality statements reveal nothing about hidden claims.
ElGamal ciphertexts (c1, c2), the byte ciphertexts and the accumulator-witness encryption hide only
computationally (DDH / DLIN, trusted) — by design they are decryptable.
The pinned tree violated (2): the explicit public tests are proved below; the harness ran them on
the real code before the repairs and keeps running the whole catalogue.
-/
namespace AC.C07
open AC.Sigma
variable {F G : Type} [Field F] [AddCommGroup G] [Module F G]

/-- pointwise difference of two witness vectors -/
def diff (s s' : List F) : List F := List.zipWith (· - ·) s s'

example : diff ([5, 7] : List ℚ) [1, 2] = [4, 5] := by norm_num [diff]

theorem msm_diff (Bs : List G) (s s' : List F) (h : s.length = s'.length) :
    msm Bs (diff s s') = msm Bs s - msm Bs s' := by
  rw [diff, msm_zipWith Bs (a := 1) (b := -1) (fun _ _ => by ring) s s' h, one_smul, neg_one_smul, sub_eq_add_neg]

/-- **Witness indistinguishability** of every linear Σ-protocol of the code: if `s` and `s'` are
witnesses of the same statement (`msm Bs s = msm Bs s'`), shifting the nonces by `c•(s - s')` turns the
honest transcript for `s` into the honest transcript for `s'` — same commitment, same responses -/
theorem sigma_witness_indistinguishable (Bs : List G) (c : F) (n s s' : List F)
    (h0 : Bs.length = n.length) (h1 : Bs.length = s.length) (h2 : Bs.length = s'.length)
    (hst : msm Bs s = msm Bs s') :
    let n' := respond c n (diff s s')
    msm Bs n' = msm Bs n ∧ respond c n' s' = respond c n s := by
  intro n'
  constructor
  · simp only [n']
    rw [msm_respond Bs c n (diff s s') (by simp [diff, ← h0, ← h1, ← h2]), msm_diff Bs s s' (h1.symm.trans h2), hst,
      sub_self, smul_zero, add_zero]
  · apply List.ext_getElem
    · simp [n', diff, ← h0, ← h1, ← h2]
    · intro i _ _
      simp only [n', respond, diff, List.getElem_zipWith]
      ring

/-- the nonce shift is a bijection (its inverse is the shift by the opposite difference) -/
theorem shift_involutive (c : F) (n s s' : List F) (h1 : n.length = s.length) (h2 : n.length = s'.length) :
    respond c (respond c n (diff s s')) (diff s' s) = n := by
  apply List.ext_getElem
  · simp [diff, ← h1, ← h2]
  · intro i _ _
    simp only [respond, diff, List.getElem_zipWith]
    ring

/-- **Perfect hiding of the commitment statement** after the repair (independent blinding factor `b`):
in a one-dimensional group (`M = μ•B`) every candidate value has exactly one blinding factor giving
the same commitment, and `b ↦ b + μ(m - m')` is a translation -/
theorem commitment_hiding (M B : G) (μ m m' b : F) (hM : M = μ • B) :
    m • M + b • B = m' • M + (b + μ * (m - m')) • B := by
  subst hM; module

/-- the pinned prover used the claim's Schnorr nonce `n` as blinding factor while publishing
`p = n + c m`: the public value `C - p•B` is `m•(M - c•B)` … -/
theorem pinned_commitment_test (M B : G) (m n c : F) :
    (m • M + n • B) - (n + c * m) • B = m • (M - c • B) := by module

/-- … which separates any two candidates whenever `M ≠ c•B` -/
theorem pinned_commitment_separates (M B : G) (m m' c : F) (hne : m ≠ m') (hM : M - c • B ≠ 0) :
    m • (M - c • B) ≠ m' • (M - c • B) :=
  fun h => hne (smul_left_injective F hM h)

/-- pinned ElGamal randomness = Schnorr nonce: `p•g - c1 = (c m)•g` -/
theorem pinned_elgamal_test (g : G) (m b c : F) : (b + c * m) • g - b • g = (c * m) • g := by
  rw [add_smul, add_sub_cancel_left]

/-- pinned per-byte nonce = byte ciphertext randomness: `messageᵢ•g - c1ᵢ = (c·byteᵢ)•g`, 256 candidates -/
theorem pinned_byte_test (g : G) (byte bi c : F) : (bi + c * byte) • g - bi • g = (c * byte) • g :=
  pinned_elgamal_test g byte bi c

/-- after the repairs the published response `p = n + c m` is blinded by a nonce `n` that occurs in no
transmitted point except inside Schnorr commitments that are themselves sums with independent nonces;
for the commitment statement: the view `(C, R, p_m, p_b)` for value `m` with randomness `(n, b, r)` equals
the view for `m'` with randomness `(n + c(m-m'), b + μ(m-m'), r - cμ(m-m'))` (translations, hence a
bijection of the randomness); the hashed Schnorr commitment `R` is recomputed from these by the verifier's
formula and therefore equal as well -/
theorem commitment_view_simulatable (B : G) (μ m m' n b r c : F) :
    let M := μ • B
    let b' := b + μ * (m - m')
    let n' := n + c * (m - m')
    let r' := r - c * (μ * (m - m'))
    m • M + b • B = m' • M + b' • B                      -- same commitment C
    ∧ n + c * m = n' + c * m'                           -- same message response
    ∧ r + c * b = r' + c * b'                           -- same blinder response
    := by
  intro M b' n' r'
  exact ⟨commitment_hiding M B μ m m' b rfl, by ring, by ring⟩

/-- **Recorded finding (encrypt-and-decrypt statement).** The symmetric key that protects the claim text is
derived from `b • K`. With the ElGamal component `c2 = m • M + b • K` public, a candidate `m` gives the
key material back: the authenticated ciphertext then confirms or refutes the guess (replayed on the real
code by the `ved-aes-key-from-candidate` distinguisher). -/
theorem ved_key_material_from_candidate (m b : F) (M K : G) : (m • M + b • K) - m • M = b • K :=
  add_sub_cancel_left _ _

/-- … and a wrong candidate gives other key material (for `M ≠ 0`) -/
theorem ved_wrong_candidate_other_material (m m' b : F) (M K : G) (hM : M ≠ 0) (hne : m ≠ m') :
    (m • M + b • K) - m' • M ≠ b • K := by
  rw [Ne, sub_eq_iff_eq_add, add_comm, add_left_cancel_iff]
  exact fun h => hne (smul_left_injective F hM h)

/-- a per-byte element transmitted without randomness (`b • M`, e.g. a ciphertext left at the identity for a
zero byte) is a test for the byte: two byte values give the same element only if they are equal
(`M ≠ 0`) — oracle `byte-element-without-randomness` -/
theorem byte_element_without_randomness_separates (b b' : F) (M : G) (hM : M ≠ 0) (h : b • M = b' • M) :
    b = b' :=
  smul_left_injective F hM h

/-- with fresh randomness `r • K` (any `K ≠ 0` of the one-dimensional group: `K = k⁻¹ • M`) every byte value is
consistent with the element -/
theorem byte_element_with_randomness_hides (b b' r : F) (M K : G) (k : F) (hk : k ≠ 0) (hK : K = k⁻¹ • M) :
    ∃ r' : F, b • M + r • K = b' • M + r' • K := by
  refine ⟨r + (b - b') * k, ?_⟩
  rw [hK, add_smul, mul_smul, smul_inv_smul₀ hk]
  module

end AC.C07
