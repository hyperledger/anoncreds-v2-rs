import AnonCreds.Props.C17
/-
C11 — tamper evidence. Every scalar / group-element leaf of a proof is either hashed directly, or is
a response / commitment that enters a recomputed Schnorr commitment which is hashed (or compared
with a hashed value): the theorems below say that changing such a leaf *moves* the recomputed value,
for every sub-protocol as coded, so that the tampered object can only be accepted on a transcript
that was never hashed before (a fresh random-oracle query hitting the presented challenge — trusted
negligible) — or fails a deterministic check. Removal / replacement of a required proof is
decided by the dispatch (C01 theorems). Leaves that are hashed as-is (a_bar, b_bar, t, σ₁, σ₂, J,
commitment C, c1, c2, byte ciphertexts, accumulator-proof points, disclosed claims) need no
algebra: the transcript item list changes (merlin framing, C04 style).
-/
namespace AC.C11
open AC.Sigma
variable {F G : Type} [Field F] [AddCommGroup G] [Module F G]

/-- replacing the response at one position of a response vector -/
def setAt (p : List F) (i : Nat) (v : F) : List F := p.set i v

/-- **a changed response moves the recomputed commitment** whenever its base point is not the
identity (the verifier's identity checks / the statement's generators) -/
theorem recommit_moves_on_response_change (Bs : List G) (T : G) (c : F) (p : List F) (i : Nat)
    (v x : F) (B : G) (hl : p.length = Bs.length) (hB : Bs[i]? = some B) (hp : p[i]? = some x)
    (hne : v ≠ x) (hB0 : B ≠ 0) :
    recommit Bs T c (p.set i v) ≠ recommit Bs T c p := by
  rw [recommit_set T c v hl hB hp, Ne, add_eq_left, smul_eq_zero_iff_left hB0, sub_eq_zero]
  exact hne

/-- a changed statement point `T` (commitment / ciphertext component / `lhs`) moves it when `c ≠ 0` -/
theorem recommit_moves_on_target_change (Bs : List G) (T T' : G) (c : F) (p : List F)
    (hl : p.length = Bs.length) (hc : c ≠ 0) (hne : T' ≠ T) :
    recommit Bs T' c p ≠ recommit Bs T c p := by
  rw [recommit_eq hl, recommit_eq hl]
  exact fun h => hne (smul_right_injective G hc (sub_right_injective h))

/-- commitment statement: each of `C`, the shared message response and the blinder response -/
theorem commitment_moves (M B C : G) (c pm pb : F) (hM : M ≠ 0) (hB : B ≠ 0) (hc : c ≠ 0) :
    (∀ C', C' ≠ C → commitmentRecommit M B C' c pm pb ≠ commitmentRecommit M B C c pm pb)
    ∧ (∀ pm', pm' ≠ pm → commitmentRecommit M B C c pm' pb ≠ commitmentRecommit M B C c pm pb)
    ∧ (∀ pb', pb' ≠ pb → commitmentRecommit M B C c pm pb' ≠ commitmentRecommit M B C c pm pb) := by
  simp only [commitmentRecommit_eq]
  exact ⟨fun C' hne => recommit_moves_on_target_change [M, B] C C' c [pm, pb] rfl hc hne,
    fun pm' hne => recommit_moves_on_response_change [M, B] C c [pm, pb] 0 pm' pm M rfl rfl rfl hne hM,
    fun pb' hne => recommit_moves_on_response_change [M, B] C c [pm, pb] 1 pb' pb B rfl rfl rfl hne hB⟩

/-- ElGamal statement: the blinder response moves `r1` (generator `g ≠ 0`), the message response moves
`r2` (`M ≠ 0`), `c1` / `c2` move `r1` / `r2` (`c ≠ 0`) — and are hashed themselves -/
theorem elgamal_moves (g M K c1 c2 : G) (c pm pb : F) (hg : g ≠ 0) (hM : M ≠ 0) (hc : c ≠ 0) :
    (∀ pb', pb' ≠ pb → (elgamalRecommit g M K c1 c2 c pm pb').1 ≠ (elgamalRecommit g M K c1 c2 c pm pb).1)
    ∧ (∀ pm', pm' ≠ pm → (elgamalRecommit g M K c1 c2 c pm' pb).2 ≠ (elgamalRecommit g M K c1 c2 c pm pb).2)
    ∧ (∀ c1', c1' ≠ c1 → (elgamalRecommit g M K c1' c2 c pm pb).1 ≠ (elgamalRecommit g M K c1 c2 c pm pb).1)
    ∧ (∀ c2', c2' ≠ c2 → (elgamalRecommit g M K c1 c2' c pm pb).2 ≠ (elgamalRecommit g M K c1 c2 c pm pb).2) := by
  simp only [elgamalRecommit_eq]
  exact ⟨fun pb' hne => recommit_moves_on_response_change [g] c1 c [pb] 0 pb' pb g rfl rfl rfl hne hg,
    fun pm' hne => recommit_moves_on_response_change [M, K] c2 c [pm, pb] 0 pm' pm M rfl rfl rfl hne hM,
    fun c1' hne => recommit_moves_on_target_change [g] c1 c1' c [pb] rfl hc hne,
    fun c2' hne => recommit_moves_on_target_change [M, K] c2 c2' c [pm, pb] rfl hc hne⟩

/-- BBS: the proof of knowledge compares `t` with the recomputation, so a changed response (whose base
— a message generator, `a_bar` or `b_bar` — is not the identity: checked by the verifier) is rejected
by that deterministic check -/
theorem bbs_response_change_rejected [DecidableEq G] (g1 : G) (ys : List G) (rvl : List (Nat × F)) (c : F)
    (π : BbsPok F G) (pk : Bool) (i : Nat) (v x : F) (B : G)
    (hok : bbsVerify g1 ys rvl c π pk = true)
    (hB : (hiddenGens ys (rvl.map (·.1)) ++ [π.abar, π.bbar])[i]? = some B) (hB0 : B ≠ 0)
    (hp : π.proof[i]? = some x) (hne : v ≠ x) :
    bbsVerify g1 ys rvl c ⟨π.abar, π.bbar, π.t, π.proof.set i v⟩ pk = false := by
  obtain ⟨-, -, -, -, -, hl, ht, -⟩ := (C17.bbsVerify_iff ..).1 hok
  rw [Bool.eq_false_iff, Ne, C17.bbsVerify_iff]
  rintro ⟨-, -, -, -, -, -, ht', -⟩
  rw [bbsRecommit_eq] at ht ht'
  exact recommit_moves_on_response_change _ (bbsLhs g1 ys rvl) c π.proof i v x B (by simp [hl]) hB hp hne hB0
    (ht'.symm.trans ht)

/-! removal / replacement of a required proof is decided by the dispatch, for every object:
`C01.missing_proof_rejected`, `C01.other_variant_rejected`, `C01.verify_ok_covers_predicates`. -/

/-- the items hashed for a commitment statement determine the commitment the proof carries and the
recomputed value: a changed commitment changes what is hashed even if the responses are adjusted to keep
the recomputed value (tie: `cm.recommit` compares both hashed items with the merlin log) -/
theorem commitmentItems_binds {G : Type} (C R C' R' : G)
    (h : AC.Sigma.commitmentItems C R = AC.Sigma.commitmentItems C' R') : C = C' ∧ R = R' := by
  simpa [commitmentItems] using h

/-- likewise for the ElGamal part of a verifiable-encryption statement (tie: `eg.recommit`) -/
theorem elgamalItems_binds {G : Type} (c1 c2 r1 r2 c1' c2' r1' r2' : G)
    (h : AC.Sigma.elgamalItems c1 c2 r1 r2 = AC.Sigma.elgamalItems c1' c2' r1' r2') :
    c1 = c1' ∧ c2 = c2' ∧ r1 = r1' ∧ r2 = r2' := by
  simpa [elgamalItems] using h

end AC.C11
