import AnonCreds.Model.Registry
import AnonCreds.Props.C14
/-
C13 — issuer registry coherence: atomic operations, bookkeeping matches accumulator.
The concrete state machine `Registry.step` (ordered sets + accumulator value) refines an abstract
status map `String → Status`; all bookkeeping clauses of the property are statements about that map.
-/
namespace AC.C13
open AC.Registry AC.Vb20

inductive Status where
  | never | active | revoked
deriving DecidableEq, Repr

section spec
variable {G : Type}

/-- abstraction: what the bookkeeping says about an identifier -/
def abs (s : State G) (id : String) : Status :=
  if id ∈ s.active then .active else if id ∈ s.elements then .revoked else .never

/-- the abstract specification: issue refuses revoked identifiers, revoke needs a duplicate-free batch
of active identifiers, refresh needs an active identifier; failures change nothing -/
def specStep (σ : String → Status) : Op → (String → Status) × Bool
  | .issue id => if σ id = .revoked then (σ, false) else (fun x => if x = id then .active else σ x, true)
  | .issueFail _ => (σ, false)
  | .revoke ids =>
    if (∀ id ∈ ids, σ id = .active) ∧ ids.Nodup then (fun x => if x ∈ ids then .revoked else σ x, true)
    else (σ, false)
  | .refresh id => (σ, decide (σ id = .active))
  | .persist => (σ, true)
  | .add ids => (fun x => if x ∈ ids ∧ σ x = .never then .active else σ x, true)

def specRun (σ : String → Status) : List Op → (String → Status)
  | [] => σ
  | op :: ops => specRun (specStep σ op).1 ops

def WF (s : State G) : Prop := ∀ x, x ∈ s.active → x ∈ s.elements

@[simp] theorem mem_insertIfAbsent {l : List String} {x y : String} :
    y ∈ insertIfAbsent l x ↔ y ∈ l ∨ y = x := by
  unfold insertIfAbsent
  split
  · rename_i hx
    exact (or_iff_left_of_imp fun e => e ▸ hx).symm
  · simp

theorem abs_eq_active {s : State G} {x : String} : abs s x = .active ↔ x ∈ s.active := by
  unfold abs
  split_ifs <;> simp [*]

theorem abs_eq_revoked {s : State G} {x : String} :
    abs s x = .revoked ↔ x ∉ s.active ∧ x ∈ s.elements := by
  unfold abs
  split_ifs <;> simp [*]

theorem abs_eq_never {s : State G} (hwf : WF s) {x : String} : abs s x = .never ↔ x ∉ s.elements := by
  have := hwf x
  unfold abs
  split_ifs <;> simp_all

theorem alreadyRevoked_iff {s : State G} {id : String} :
    alreadyRevoked s id = true ↔ abs s id = .revoked := by
  simp [alreadyRevoked, abs_eq_revoked]

/-- the test of `revoke_credentials`, in terms of the status map -/
theorem revokeTest_iff {s : State G} {ids : List String} :
    (ids.all (s.active.contains ·) && decide ids.Nodup) = true ↔
      (∀ id ∈ ids, abs s id = .active) ∧ ids.Nodup := by
  simp [abs_eq_active]

theorem addAll_value (s : State G) (ids : List String) : (addAll s ids).value = s.value := by
  induction ids generalizing s with
  | nil => rfl
  | cons e es ih =>
    refine (ih (addOne s e)).trans ?_
    unfold addOne
    split <;> rfl

end spec

section refinement
variable {F G : Type} [Field F] [AddCommGroup G] [Module F G]

/-- **Atomicity.** An operation that returns an error leaves bookkeeping and value unchanged. -/
theorem error_leaves_state (h : String → F) (α : F) (s : State G) (op : Op)
    (he : (step h α s op).2.isErr = true) : (step h α s op).1 = s := by
  cases op with
  | issue id =>
    simp only [step] at he ⊢
    split
    · rfl
    · rw [if_neg ‹_›] at he
      cases he
  | revoke ids =>
    simp only [step] at he ⊢
    split
    · rw [if_pos ‹_›] at he
      cases he
    · rfl
  | refresh id =>
    simp only [step]
    split <;> rfl
  | add ids => cases he
  | issueFail _ | persist => rfl

/-- saving and restoring is the identity on the modelled state -/
theorem persist_restore (h : String → F) (α : F) (s : State G) : (step h α s .persist).1 = s := rfl

/-- only a successful `revoke` moves the value -/
theorem step_value (h : String → F) (α : F) (s : State G) (op : Op) (hop : ∀ ids, op ≠ .revoke ids) :
    (step h α s op).1.value = s.value := by
  cases op with
  | revoke ids => exact absurd rfl (hop ids)
  | add ids => exact addAll_value s ids
  | issue id | refresh id =>
    simp only [step]
    split <;> rfl
  | issueFail _ | persist => rfl

/-- one `add` iteration on the abstract status: only a never-seen identifier changes (to active) -/
theorem abs_addOne (s : State G) (e : String) (hwf : WF s) :
    abs (addOne s e) = (fun x => if x = e ∧ abs s x = .never then .active else abs s x) ∧ WF (addOne s e) := by
  unfold addOne
  by_cases he : e ∈ s.elements
  · simp only [List.contains_eq_mem, he, decide_true, if_true]
    refine ⟨funext fun x => (if_neg ?_).symm, hwf⟩
    rintro ⟨rfl, hn⟩
    exact (abs_eq_never hwf).mp hn he
  · simp only [List.contains_eq_mem, he, decide_false, Bool.false_eq_true, if_false]
    have ha : e ∉ s.active := fun h => he (hwf e h)
    refine ⟨funext fun x => ?_, fun x => ?_⟩
    · by_cases hx : x = e
      · subst hx
        simp [abs, ha, he]
      · simp [abs, hx]
    · simp only [mem_insertIfAbsent, List.mem_append, List.mem_singleton]
      exact Or.imp_left (hwf x)

theorem abs_addAll (s : State G) (ids : List String) (hwf : WF s) :
    abs (addAll s ids) = (fun x => if x ∈ ids ∧ abs s x = .never then .active else abs s x)
      ∧ WF (addAll s ids) := by
  induction ids generalizing s with
  | nil => simp [addAll, hwf]
  | cons e es ih =>
    obtain ⟨h1, h2⟩ := abs_addOne s e hwf
    obtain ⟨h3, h4⟩ := ih (addOne s e) h2
    refine ⟨?_, h4⟩
    show abs (addAll (addOne s e) es) = _
    rw [h3, h1]
    funext x
    by_cases hx : x = e
    · subst hx
      by_cases hn : abs s x = .never <;> simp [hn]
    · by_cases hxs : x ∈ es <;> simp [hx, hxs]

/-- **Refinement.** Each concrete step computes the specification's step on the abstract status map,
fails exactly when the specification fails, and preserves well-formedness. -/
theorem step_refines (h : String → F) (α : F) (s : State G) (op : Op) (hwf : WF s) :
    abs (step h α s op).1 = (specStep (abs s) op).1
    ∧ (step h α s op).2.isErr = !(specStep (abs s) op).2
    ∧ WF (step h α s op).1 := by
  cases op with
  | issue id =>
    simp only [step, specStep, alreadyRevoked_iff]
    split
    · exact ⟨rfl, rfl, hwf⟩
    · refine ⟨funext fun x => ?_, rfl, fun x => ?_⟩
      · by_cases hx : x = id <;> simp [abs, hx]
      · simp only [mem_insertIfAbsent]
        exact Or.imp_left (hwf x)
  | issueFail _ | persist => exact ⟨rfl, rfl, hwf⟩
  | revoke ids =>
    simp only [step, specStep, revokeTest_iff]
    split
    · rename_i hc
      refine ⟨funext fun x => ?_, rfl, fun x hx => hwf x (List.mem_filter.mp hx).1⟩
      by_cases hx : x ∈ ids
      · simp [abs, hx, hwf x (abs_eq_active.mp (hc.1 x hx))]
      · simp [abs, hx]
    · exact ⟨rfl, rfl, hwf⟩
  | refresh id =>
    simp only [step, specStep, List.contains_eq_mem, decide_eq_true_eq, ← abs_eq_active (s := s)]
    split <;> simp [*, Out.isErr]
  | add ids =>
    obtain ⟨h1, h2⟩ := abs_addAll s ids hwf
    exact ⟨h1, rfl, h2⟩

/-- refinement along every history -/
theorem run_refines (h : String → F) (α : F) (s : State G) (ops : List Op) (hwf : WF s) :
    abs (run h α s ops) = specRun (abs s) ops ∧ WF (run h α s ops) := by
  induction ops generalizing s with
  | nil => exact ⟨rfl, hwf⟩
  | cons op ops ih =>
    obtain ⟨h1, _, h3⟩ := step_refines h α s op hwf
    simp only [run, specRun]
    rw [← h1]
    exact ih _ h3

end refinement

/-! ### consequences read off the specification -/

/-- which identifiers are revoked changes only by a successful `revoke`, which adds its batch -/
theorem revoked_step_iff (σ : String → Status) (op : Op) (x : String) :
    (specStep σ op).1 x = .revoked ↔
      σ x = .revoked ∨ ∃ ids, op = .revoke ids ∧ (specStep σ op).2 = true ∧ x ∈ ids := by
  cases op with
  | issue j =>
    simp only [specStep]
    split
    · simp
    · rename_i hj
      by_cases e : x = j
      · subst e
        simp [hj]
      · simp [e]
  | revoke ids =>
    simp only [specStep]
    split
    · by_cases e : x ∈ ids <;> simp [e]
    · simp
  | add ids =>
    simp only [specStep]
    split_ifs with hx
    · simp [hx.2]
    · simp
  | issueFail _ | refresh _ | persist => simp [specStep]

/-- a revoked identifier stays revoked along every history -/
theorem revoked_forever (σ : String → Status) (ops : List Op) (id : String) (h : σ id = .revoked) :
    specRun σ ops id = .revoked := by
  induction ops generalizing σ with
  | nil => exact h
  | cons op ops ih => exact ih _ ((revoked_step_iff σ op id).mpr (Or.inl h))

/-- a revoked identifier is never issued or refreshed again -/
theorem revoked_never_reissued (σ : String → Status) (id : String) (h : σ id = .revoked) :
    (specStep σ (.issue id)).2 = false ∧ (specStep σ (.refresh id)).2 = false := by
  simp [specStep, h]

/-- refresh succeeds exactly for active identifiers -/
theorem refresh_iff_active (σ : String → Status) (id : String) :
    (specStep σ (.refresh id)).2 = true ↔ σ id = .active := by
  simp [specStep]

/-- a successful issuance makes the identifier active and touches no other identifier -/
theorem issue_effect (σ : String → Status) (id x : String) (h : (specStep σ (.issue id)).2 = true) :
    (specStep σ (.issue id)).1 x = if x = id then .active else σ x := by
  simp only [specStep] at h ⊢
  split at h
  · cases h
  · rw [if_neg ‹_›]

/-- revocation needs every identifier active (issued, not revoked) and listed once -/
theorem revoke_ok_iff (σ : String → Status) (ids : List String) :
    (specStep σ (.revoke ids)).2 = true ↔ (∀ id ∈ ids, σ id = .active) ∧ ids.Nodup := by
  simp only [specStep]
  split_ifs with hc
  · exact iff_of_true rfl hc
  · exact iff_of_false not_false hc

/-- a successful revocation revokes exactly the batch -/
theorem revoke_effect (σ : String → Status) (ids : List String) (x : String)
    (h : (specStep σ (.revoke ids)).2 = true) :
    (specStep σ (.revoke ids)).1 x = if x ∈ ids then .revoked else σ x := by
  simp only [specStep, if_pos ((revoke_ok_iff σ ids).mp h)]

/-! ### the published value -/

section value
variable {F G : Type} [Field F] [DecidableEq F] [AddCommGroup G] [Module F G]
-- `[DecidableEq F]` is an argument of every theorem of this section, used (through C14) by `issued_handle_verifies` only
set_option linter.unusedSectionVars false

theorem batchAdd_append (α : F) (xs ys : List F) :
    batchAdd α (xs ++ ys) = batchAdd α xs * batchAdd α ys := by
  induction xs with
  | nil => simp [batchAdd]
  | cons x xs ih => simp [batchAdd, ih, mul_assoc]

/-- the batch product does not depend on how a batch is cut into blocks (any block sizes, any number of blocks):
what a block-wise / parallel implementation of `batch_additions` has to preserve — in particular no block, and no
remainder shorter than a block, may be left out -/
theorem batchAdd_blocks (α : F) (blocks : List (List F)) :
    batchAdd α blocks.flatten = (blocks.map (batchAdd α)).prod := by
  induction blocks with
  | nil => simp [batchAdd]
  | cons b bs ih => simp [batchAdd_append, ih]

/-- … nor on the order of the identifiers -/
theorem batchAdd_perm (α : F) (xs ys : List F) (h : xs.Perm ys) : batchAdd α xs = batchAdd α ys := by
  induction h with
  | nil => rfl
  | cons x _ ih => simp [batchAdd, ih]
  | swap x y l => simp [batchAdd, mul_left_comm]
  | trans _ _ ih1 ih2 => exact ih1.trans ih2

/-- value invariant: there is a duplicate-free list `R` of exactly the revoked identifiers with
`value = (∏_{y ∈ R} (h y + α))⁻¹ • V₀` — every revoked identifier is divided out exactly once -/
def ValueInv (h : String → F) (α : F) (V0 : G) (s : State G) : Prop :=
  ∃ R : List String, R.Nodup ∧ (∀ x, x ∈ R ↔ abs s x = .revoked) ∧
    s.value = (batchAdd α (R.map h))⁻¹ • V0

theorem valueInv_init (h : String → F) (α : F) (V0 : G) : ValueInv h α V0 ⟨[], [], V0⟩ :=
  ⟨[], List.nodup_nil, by simp [abs], by simp [batchAdd]⟩

/-- a successful `revoke` appends its batch to `R` and divides the value by the batch product; every
other step changes neither the revoked identifiers nor the value -/
theorem valueInv_step (h : String → F) (α : F) (V0 : G) (s : State G) (op : Op)
    (hwf : WF s) (hv : ValueInv h α V0 s) : ValueInv h α V0 (step h α s op).1 := by
  have habs := (step_refines h α s op hwf).1
  obtain ⟨R, hnd, hmem, hR⟩ := hv
  by_cases hop : ∃ ids, op = .revoke ids
  · obtain ⟨ids, rfl⟩ := hop
    by_cases hc : (∀ id ∈ ids, abs s id = .active) ∧ ids.Nodup
    · refine ⟨R ++ ids, List.Nodup.append hnd hc.2 ?_, fun x => ?_, ?_⟩
      · intro x hx hx'
        cases (hc.1 x hx').symm.trans ((hmem x).mp hx)
      · rw [habs, revoke_effect _ _ _ ((revoke_ok_iff _ _).mpr hc), List.mem_append, hmem]
        split_ifs with hx <;> simp [hx]
      · simp only [step, if_pos (revokeTest_iff.mpr hc)]
        rw [hR, smul_smul, List.map_append, batchAdd_append, batchDel, mul_inv, mul_comm]
    · simp only [step, if_neg (revokeTest_iff.not.mpr hc)]
      exact ⟨R, hnd, hmem, hR⟩
  · rw [not_exists] at hop
    refine ⟨R, hnd, fun x => ?_, (step_value h α s op hop).trans hR⟩
    rw [hmem, habs, revoked_step_iff]
    exact (or_iff_left fun ⟨ids, e, _⟩ => hop ids e).symm

theorem valueInv_run (h : String → F) (α : F) (V0 : G) (s : State G) (ops : List Op)
    (hwf : WF s) (hv : ValueInv h α V0 s) :
    ValueInv h α V0 (run h α s ops) ∧ WF (run h α s ops) := by
  induction ops generalizing s with
  | nil => exact ⟨hv, hwf⟩
  | cons op ops ih => exact ih _ (step_refines h α s op hwf).2.2 (valueInv_step h α V0 s op hwf hv)

/-- the invariant holds in every reachable state -/
theorem valueInv_reachable (h : String → F) (α : F) (V0 : G) (ops : List Op) :
    ValueInv h α V0 (run h α ⟨[], [], V0⟩ ops) ∧ WF (run h α (⟨[], [], V0⟩ : State G) ops) :=
  valueInv_run h α V0 _ ops (fun _ => id) (valueInv_init h α V0)

/-- every handle the issuer hands out (issuance or refresh) verifies against the value published at
that moment -/
theorem issued_handle_verifies (h : String → F) (α : F) (s : State G) (op : Op) (w : G) (id : String)
    (hop : op = .issue id ∨ op = .refresh id) (hne : h id + α ≠ 0)
    (hout : (step h α s op).2 = .handle w) :
    C14.IsWitness α (h id) w (step h α s op).1.value := by
  have hw : w = mwNew α (h id) s.value := by
    rcases hop with rfl | rfl
    all_goals
      simp only [step] at hout
      split at hout <;> cases hout
      rfl
  rw [hw, step_value h α s op (by rcases hop with rfl | rfl <;> nofun)]
  exact C14.mwNew_isWitness α (h id) s.value hne

/-- a handle valid for an earlier value verifies against the current one iff the value is unchanged -/
theorem stale_handle_verifies_iff (α y : F) (C V V' : G) (hw : C14.IsWitness α y C V) :
    C14.IsWitness α y C V' ↔ V' = V :=
  C14.stale_witness_verifies_iff α y C V V' hw

/-- the pinned `revoke` was not atomic: batch `[a, x]` with `a` active and `x` not fails after
removing `a` (replayed on the real code before the repair) -/
theorem pinned_revoke_partial_on_error (h : String → F) (α : F) (V : G) :
    (pinnedRevoke h α (⟨["a"], ["a"], V⟩ : State G) ["a", "x"]).2.isErr = true
    ∧ (pinnedRevoke h α (⟨["a"], ["a"], V⟩ : State G) ["a", "x"]).1.active = [] := by
  simp [pinnedRevoke, pinnedRevoke.go, Out.isErr]

end value

/-- non-vacuity: a concrete history on the specification: issue a, b; revoke [a]; a stays revoked,
b active, c never issued — the three statuses are distinguishable -/
example :
    let σ := specRun (fun _ => Status.never) [.issue "a", .issue "b", .revoke ["a"], .issue "a", .refresh "a"]
    σ "a" = .revoked ∧ σ "b" = .active ∧ σ "c" = .never := by decide

end AC.C13
