import AnonCreds.Model.Membership
import AnonCreds.Props.C13
import AnonCreds.Props.C14
/-
C06 — revoked credentials cannot present, all others still can.

Layers:
* the membership Σ-protocol (`Model/Membership.lean`): the verifier's recomputed commitments equal
  the prover's **iff** the handle satisfies the witness relation for the statement's registry value
  (`honest_accepts_iff`, for every handle, coin and challenge), and any two accepting answers to one
  commitment yield a witness for the identifier both answer for (`special_soundness`);
* the handle classes of the property: stale, publicly updated, borrowed (`stale_…`, `deleted_…`,
  `borrowed_…`), each shown not to satisfy the relation after revocation;
* the registry histories of C13 and the public updates of C14, composed into the end-to-end
  statements `active_refreshed_presents`, `active_public_update_presents`, `revoked_handles_fail`.

What no theorem here (or anywhere) can give is that *no* handle for a revoked identifier can be
computed without the secret key: that is the q-SDH assumption. `special_soundness` reduces acceptance
to possession of such a handle; `witness_unique` shows it is the single value `(y+α)⁻¹ • V`.
-/
namespace AC.C06
open AC.Membership AC.Vb20 AC.Registry

theorem commitments_eq_iff {G : Type} {a b : Commitments G} :
    a = b ↔ a.rE = b.rE ∧ a.rSigma = b.rSigma ∧ a.rRho = b.rRho ∧
      a.rDeltaSigma = b.rDeltaSigma ∧ a.rDeltaRho = b.rDeltaRho := by
  cases a
  cases b
  simp only [Commitments.mk.injEq]

section algebra
variable {F : Type} [Field F] {G : Type} [AddCommGroup G] [Module F G]

/-- Schnorr verification for `T = v • X`: the response `schnorr r v c` recomputes the commitment `r • X` -/
theorem schnorr_verify (r v c : F) (X : G) : schnorr r v c • X + c • (-(v • X)) = r • X := by
  unfold schnorr
  module

/-- the product relation `δ = y * v` on `T = v • X`: the challenge drops out of `s_y • T - s_δ • X` -/
theorem schnorr_verify_prod (rY rD y v c : F) (X : G) :
    schnorr rY y c • (v • X) + schnorr rD (y * v) c • (-X) = rY • (v • X) + rD • (-X) := by
  unfold schnorr
  module

/-- two openings `a • P - b • Q`, `a' • P - b' • Q` of one commitment: the differences satisfy the
homogeneous relation -/
theorem smul_sub_eq_of_opens {a a' b b' : F} {P Q : G} (h : a • P + b • (-Q) = a' • P + b' • (-Q)) :
    (a - a') • P = (b - b') • Q := by
  linear_combination (norm := module) h

/-- cancelling a non-zero scalar `d` -/
theorem eq_div_smul {d s : F} {T X : G} (hd : d ≠ 0) (h : d • T = s • X) : T = (s / d) • X := by
  rw [div_eq_inv_mul, mul_smul, ← h, inv_smul_smul₀ hd]

theorem exists_eq_smul {d s : F} {T X : G} (hd : d ≠ 0) (h : d • T = s • X) :
    ∃ σ, s = d * σ ∧ T = σ • X :=
  ⟨s / d, (mul_div_cancel₀ s hd).symm, eq_div_smul hd h⟩

end algebra

variable {F : Type} [Field F] [DecidableEq F] {G : Type} [AddCommGroup G] [Module F G]
-- `[DecidableEq F]` (needed where C13 / C14 definitions occur) is an argument of every theorem below
set_option linter.unusedSectionVars false

/-- the verifier accepts the honest algorithm's answer: recomputed commitments = committed ones
(the Fiat–Shamir hash then reproduces the challenge, C04) -/
def Accepts (pp : Params G) (α : F) (V : G) (y : F) (C : G) (k : Coins F) (c : F) : Prop :=
  finalize pp α V c (genProof pp y C k c) = (commit pp α C k).2.2.2

/-- **Completeness, exactly.** For every handle `C` (valid or not), coins and challenge, the
verifier's recomputation matches iff `c • ((y + α) • C − V) = 0`. -/
theorem honest_accepts_iff (pp : Params G) (α : F) (V : G) (y : F) (C : G) (k : Coins F) (c : F) :
    Accepts pp α V y C k c ↔ c • ((y + α) • C - V) = 0 := by
  -- four of the five components agree for every handle (`schnorr_verify*`); only `rE` carries the relation
  have hE : (finalize pp α V c (genProof pp y C k c)).rE
      = (commit pp α C k).2.2.2.rE + c • ((y + α) • C - V) := by
    simp only [finalize, genProof, commit, schnorr]
    module
  rw [Accepts, commitments_eq_iff, hE, add_eq_left]
  exact and_iff_left ⟨schnorr_verify _ _ c pp.x, schnorr_verify _ _ c pp.y,
    schnorr_verify_prod _ _ y _ c pp.x, schnorr_verify_prod _ _ y _ c pp.y⟩

/-- a valid handle is accepted for every challenge and all coins -/
theorem valid_handle_accepted (pp : Params G) (α : F) (V : G) (y : F) (C : G) (k : Coins F) (c : F)
    (hw : C14.IsWitness α y C V) : Accepts pp α V y C k c := by
  rw [honest_accepts_iff, sub_eq_zero.mpr hw, smul_zero]

/-- an invalid handle is rejected for every non-zero challenge and all coins -/
theorem invalid_handle_rejected (pp : Params G) (α : F) (V : G) (y : F) (C : G) (k : Coins F) (c : F)
    (hc : c ≠ 0) (hw : ¬ C14.IsWitness α y C V) : ¬ Accepts pp α V y C k c := by
  rw [honest_accepts_iff, smul_eq_zero, sub_eq_zero]
  exact not_or.mpr ⟨hc, hw⟩

/-- **Special soundness.** Two proofs with the same first message (`E_C, T_σ, T_ρ` and the same
recomputed commitments) for different challenges determine `y = Δs_y / Δc` and a handle
`W = E_C − (σ+ρ)•Z` with `(y + α) • W = V`: whoever can answer two challenges holds a valid handle
for exactly the identifier its `s_y` responses encode — the identifier the signature proof is
linked to through `s_y = message response` (`linkOk`). -/
theorem special_soundness (pp : Params G) (α : F) (V : G) (c c' : F) (p p' : MProof F G)
    (hx : pp.x ≠ 0) (hy : pp.y ≠ 0) (hc : c ≠ c')
    (hec : p.ec = p'.ec) (hts : p.tSigma = p'.tSigma) (htr : p.tRho = p'.tRho)
    (hfin : finalize pp α V c p = finalize pp α V c' p') :
    ∃ σ ρ : F, p.tSigma = σ • pp.x ∧ p.tRho = ρ • pp.y ∧
      C14.IsWitness α ((p.sY - p'.sY) / (c - c')) (p.ec - (σ + ρ) • pp.z) V := by
  have hd : c - c' ≠ 0 := sub_ne_zero.mpr hc
  -- `finalize` is affine in (challenge, responses): equal recomputations give five homogeneous
  -- equations in the differences `Δs`, `Δc`
  simp only [finalize, Commitments.mk.injEq, ← hec, ← hts, ← htr] at hfin
  obtain ⟨hE, hS, hR, hDS, hDR⟩ := hfin
  obtain ⟨σ, gσ, hT⟩ := exists_eq_smul hd (smul_sub_eq_of_opens hS).symm
  obtain ⟨ρ, gρ, hU⟩ := exists_eq_smul hd (smul_sub_eq_of_opens hR).symm
  refine ⟨σ, ρ, hT, hU, ?_⟩
  have fσ : (p.sY - p'.sY) * σ = p.sDeltaSigma - p'.sDeltaSigma := by
    have := smul_sub_eq_of_opens hDS
    rw [hT, smul_smul] at this
    exact smul_left_injective F hx this
  have fρ : (p.sY - p'.sY) * ρ = p.sDeltaRho - p'.sDeltaRho := by
    have := smul_sub_eq_of_opens hDR
    rw [hU, smul_smul] at this
    exact smul_left_injective F hy this
  -- the `E`-component, with `Δs_σ + Δs_ρ = Δc (σ + ρ)` and `Δs_δσ + Δs_δρ = Δs_y (σ + ρ)` put in
  have key : (c - c') • V = ((p.sY - p'.sY) + α * (c - c')) • (p.ec - (σ + ρ) • pp.z) := by
    linear_combination (norm := module) -hE + (fσ + fρ) • pp.z - (α * (gσ + gρ)) • pp.z
  have := eq_div_smul hd key
  rw [add_div, mul_div_cancel_right₀ _ hd] at this
  exact this.symm

/-- the handle for `y` at value `V` is unique: `(y + α)⁻¹ • V` (what `refresh` computes, and refuses
to compute for revoked identifiers — `C13.refresh_iff_active`) -/
theorem witness_unique (α y : F) (C V : G) (h : y + α ≠ 0) (hw : C14.IsWitness α y C V) :
    C = mwNew α y V := C14.isWitness_unique α y C V h hw

/-! ### the handle classes of the property -/

/-- **Stale handle.** A handle that verified against an earlier value verifies now iff the value
did not move … -/
theorem stale_handle_iff (α y : F) (C Vold Vnow : G) (hw : C14.IsWitness α y C Vold) :
    C14.IsWitness α y C Vnow ↔ Vnow = Vold := C14.stale_witness_verifies_iff α y C Vold Vnow hw

/-- … and every successful revocation moves it (generic position: the product of the removed
`(h id + α)` is not 1, the value is not the identity). -/
theorem revocation_moves_value (h : String → F) (α : F) (s : State G) (ids : List String)
    (hok : (ids.all (s.active.contains ·) && decide ids.Nodup) = true)
    (hk : batchAdd α (ids.map h) ≠ 1) (hk0 : batchAdd α (ids.map h) ≠ 0) (hv : s.value ≠ 0) :
    (step h α s (.revoke ids)).1.value ≠ s.value := by
  simp only [step, if_pos hok, batchDel]
  intro e
  exact hk (inv_eq_one.mp (smul_left_injective F hv (e.trans (one_smul F _).symm)))

/-- **Publicly updated handle.** The public batch update leaves the handle of a deleted element
unchanged (the real code reports an error and keeps the old handle), so it is a stale handle. -/
theorem deleted_public_update_is_stale (y : F) (C : G) (adds dels : List F) (coefs : List G) (h : y ∈ dels) :
    mwBatchUpdate C y adds dels coefs = C := C14.deleted_no_update y C adds dels coefs h

/-- **Borrowed handle.** A handle valid for another identifier `y'` is not valid for `y`. -/
theorem borrowed_handle_invalid (α y y' : F) (C V : G) (hne : y ≠ y') (hV : V ≠ 0)
    (hw' : C14.IsWitness α y' C V) : ¬ C14.IsWitness α y C V := by
  unfold C14.IsWitness at *
  intro hw
  have hC : C ≠ 0 := by
    rintro rfl
    exact hV (by rw [← hw, smul_zero])
  exact hne (add_right_cancel (smul_left_injective F hC (hw.trans hw'.symm)))

/-! ### end to end over registry histories -/

/-- **Non-revoked ⇒ can present (refresh from the issuer).** In every reachable registry state,
for every active identifier, `refresh` returns a handle and the honest proof with it is accepted
against the published value, for all coins and challenges. -/
theorem active_refreshed_presents (h : String → F) (α : F) (V0 : G) (ops : List Op) (id : String)
    (pp : Params G) (k : Coins F) (c : F) (hne : h id + α ≠ 0)
    (hact : C13.abs (run h α (⟨[], [], V0⟩ : State G) ops) id = .active) :
    ∃ w, (step h α (run h α ⟨[], [], V0⟩ ops) (.refresh id)).2 = .handle w ∧
      Accepts pp α (run h α (⟨[], [], V0⟩ : State G) ops).value (h id) w k c :=
  ⟨_, by simp [step, C13.abs_eq_active.mp hact],
    valid_handle_accepted pp α _ (h id) _ k c (C14.mwNew_isWitness α (h id) _ hne)⟩

/-- **Non-revoked ⇒ can present (published update data).** A holder whose handle verified at some
epoch and who applies every later published batch (any number, any sizes) is accepted against the
latest value, provided its identifier is in none of the deletions. -/
theorem active_public_update_presents (α y : F) (V C : G) (bs : List (List F × List F))
    (pp : Params G) (k : Coins F) (c : F)
    (hd : ∀ b ∈ bs, ∀ d ∈ b.2, d + α ≠ 0) (hdel : ∀ b ∈ bs, dad y b.2 ≠ 0)
    (hw : C14.IsWitness α y C V) :
    Accepts pp α (C14.runAcc α V bs) y (C14.runWitness α y V C bs) k c :=
  valid_handle_accepted pp α _ y _ k c (C14.history_update_isWitness α y V C bs hd hdel hw)

/-- **Revoked ⇒ the derivable handles fail.** Let `C` verify for `y` against `Vold`, or for another
identifier `y'` against the current value. If the current value differs from `Vold` (see
`revocation_moves_value`), the honest proof built from `C` is rejected for every non-zero challenge. -/
theorem revoked_handles_fail (pp : Params G) (α y : F) (C Vnow : G) (k : Coins F) (c : F) (hc : c ≠ 0)
    (hclass : (∃ Vold, C14.IsWitness α y C Vold ∧ Vnow ≠ Vold) ∨
              (∃ y', y ≠ y' ∧ Vnow ≠ 0 ∧ C14.IsWitness α y' C Vnow)) :
    ¬ Accepts pp α Vnow y C k c := by
  apply invalid_handle_rejected pp α Vnow y C k c hc
  rcases hclass with ⟨Vold, hw, hne⟩ | ⟨y', hne, hV, hw⟩
  · exact (stale_handle_iff α y C Vold Vnow hw).not.mpr hne
  · exact borrowed_handle_invalid α y y' C Vnow hne hV hw

/-- the issuer never hands a revoked identifier a fresh handle, in any later state (C13) -/
theorem revoked_never_refreshed (σ : String → C13.Status) (ops : List Op) (id : String)
    (h : σ id = .revoked) : (C13.specStep (C13.specRun σ ops) (.refresh id)).2 = false :=
  (C13.revoked_never_reissued _ id (C13.revoked_forever σ ops id h)).2

/-! ### degenerate proofs (points at infinity, zero responses)

The recomputation is one linear map for every proof object, the degenerate ones included: for the proof
made of three points at infinity and zero responses (only `s_y` free) the first recomputed commitment is
`(-c) • V`. It determines the challenge, so such a proof cannot be answered for a challenge fixed in
advance — unless the implementation special-cases it (seeded change `finalize-early-out-on-identity`,
caught by the `mp.finalize` correspondence on exactly these objects). -/

theorem finalize_degenerate (pp : Params G) (α c sY : F) (V : G) :
    finalize pp α V c ⟨0, 0, 0, 0, 0, 0, 0, sY⟩ = ⟨(-c) • V, 0, 0, 0, 0⟩ := by
  simp [finalize]

theorem finalize_degenerate_binds_challenge (pp : Params G) (α c c' sY sY' : F) (V : G)
    (hV : V ≠ 0)
    (h : (finalize pp α V c ⟨0, 0, 0, 0, 0, 0, 0, sY⟩).rE = (finalize pp α V c' ⟨0, 0, 0, 0, 0, 0, 0, sY'⟩).rE) :
    c = c' := by
  rw [finalize_degenerate, finalize_degenerate] at h
  exact neg_inj.mp (smul_left_injective F hV h)

/-- non-vacuity: over `F = G = ℚ` the degenerate proof's recomputation differs for two challenges -/
example : finalize (F := ℚ) (G := ℚ) ⟨1, 2, 3⟩ 5 7 1 ⟨0, 0, 0, 0, 0, 0, 0, 4⟩ ≠
    finalize (F := ℚ) (G := ℚ) ⟨1, 2, 3⟩ 5 7 2 ⟨0, 0, 0, 0, 0, 0, 0, 4⟩ := by
  simp [finalize]

end AC.C06
